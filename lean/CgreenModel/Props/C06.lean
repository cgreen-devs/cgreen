import CgreenModel.Lemmas.Mocks
/-!
# C06 — mock calls consume expectations in declaration order, per function
`Model/Mocks.lean` mirrors `mocks.c` on one global queue; the specification is one independent FIFO
per function (`proj`, `SState`, `specStep`).
-/
namespace Cgreen
open Mocks

/-- The abstraction: the global queue seen as one FIFO per function. -/
def absM (s : MState) : SState := { qs := fun g => proj g s.q, nextId := s.nextId, mode := s.mode }

/-- Refinement, one step: a declaration or a call reports on the global queue exactly what it reports
on its own function's FIFO, transforms that FIFO as the specification says and leaves every other
function's FIFO alone. -/
theorem C06_step_refines (s : MState) (op : Op) (hop : op.fn?.isSome ∨ ∃ m, op = .mode m) :
    (specStep (absM s) op).2 = (step s op).2
    ∧ (∀ g, (specStep (absM s) op).1.qs g = proj g (step s op).1.q)
    ∧ (specStep (absM s) op).1.nextId = (step s op).1.nextId
    ∧ (specStep (absM s) op).1.mode = (step s op).1.mode := by
  -- the specification replaces `f`'s FIFO by `p`; the model turns `s.q` into `q'`
  have hqs (f : Nat) (q' p : List Exp) (h2 : proj f q' = p) (h3 : ∀ g, g ≠ f → proj g q' = proj g s.q) (g : Nat) :
      (if g = f then p else proj g s.q) = proj g q' := by
    split
    · subst g; exact h2.symm
    · exact (h3 g ‹_›).symm
  cases op with
  | decl k f r c =>
    obtain ⟨h1, h2, h3, h4, h5⟩ := declare_refines s k f r c
    exact ⟨h1.symm, hqs f _ _ h2 h3, (declare_refines { s with q := proj f s.q } k f r c).2.2.2.1.trans h4.symm, h5.symm⟩
  | call f a =>
    obtain ⟨h1, h2, h3, h4, h5⟩ := call_refines s f a
    exact ⟨h1.symm, hqs f _ _ h2 h3, h4.symm, h5.symm⟩
  | tally => rcases hop with h | ⟨m, h⟩ <;> simp [Op.fn?] at h
  | mode m => exact ⟨rfl, fun _ => rfl, rfl, rfl⟩

/-- … and the tally reports, for every function, what that function's FIFO holds; afterwards every
FIFO is empty. -/
theorem C06_tally_refines (s : MState) (g : Nat) :
    specTally (absM s) g = (proj g s.q).flatMap tallyOne ∧ proj g (step s .tally).1.q = [] := by
  simp [specTally, absM, step, tally, proj]

/-- The expectation a call uses is the earliest pending one declared for that function. -/
theorem C06_earliest (f : Nat) (q : List Exp) : findExp f q = (proj f q).head? := findExp_head f q

/-- The ordinary case: every clause names a parameter the mock passes. -/
theorem reportFor_known (e : Exp) (args : List Int) (h : e.unknownParam args = false) : reportFor e args = checksFor e args := by
  simp [reportFor, h]

/-- The other case: one failure report attributed to the expectation, and no clause is applied. -/
theorem C06_unknown_parameter (e : Exp) (args : List Int) (h : e.unknownParam args = true) :
    reportFor e args = [.check (some e.id) false] := by
  simp [reportFor, h]

/-- An expectation with `times(n)` (or the default single use, `n = 1`) serves exactly `n`
consecutive calls: each of them is checked against its clauses and gets its return value, and after
the `n`-th it is gone, so the next call is served by the next expectation for that function. -/
theorem C06_times (n : Nat) : ∀ (s : MState) (f : Nat) (argss : List (List Int)) (e : Exp) (rest : List Exp),
    proj f s.q = e :: rest → e.ttl = (n : Int) + 1 → (n : Int) + 1 < UNL → argss.length = n + 1 →
    (calls s f argss).2 = argss.map (fun a => reportFor e a ++ [.ret e.ret])
    ∧ proj f (calls s f argss).1.q = rest := by
  intro s f argss e rest hq httl hb hlen
  -- the first `n` calls leave the expectation with one use, the last consumes it
  obtain ⟨init, last, rfl⟩ : ∃ init last, argss = init ++ [last] := by
    rcases List.eq_nil_or_concat argss with rfl | ⟨i, l, h⟩
    · cases hlen
    · exact ⟨i, l, by rw [h, List.concat_eq_append]⟩
  rw [List.length_append, List.length_singleton, Nat.add_right_cancel_iff] at hlen
  obtain ⟨h1, e', h2, ht, -, -, hid, hret, hcons⟩ := calls_served s f init e rest hq (by omega) (by omega)
  obtain ⟨ha, hn⟩ := e'.ordinary_of_ttl (by omega) (by omega)
  obtain ⟨h3, h4⟩ := call_head _ f last e' rest h2 ha hn
  rw [calls_append, List.map_append, h1]
  simp only [calls]
  rw [h3, h4, if_pos (by omega), reportFor_congr e' e last hid hcons, hret]
  exact ⟨rfl, rfl⟩

/-- An `always_expect` at the head of `f`'s FIFO serves every call and stays. -/
theorem C06_always (s : MState) (f : Nat) (args : List Int) (e : Exp) (rest : List Exp)
    (hq : proj f s.q = e :: rest) (ha : e.isAlways = true) :
    (call s f args).2 = reportFor e args ++ [.ret e.ret]
    ∧ ∃ e', proj f (call s f args).1.q = e' :: rest ∧ e'.isAlways = true ∧ e'.ret = e.ret ∧ e'.cons = e.cons ∧ e'.id = e.id := by
  obtain ⟨h1, h2⟩ := call_proj_cons s f args e rest hq
  simp only [e.isNever_of_isAlways ha, ha, Bool.false_eq_true, if_false, Bool.not_true, Bool.false_and] at h1 h2
  refine ⟨h1, _, h2, ?_, rfl, rfl, rfl⟩
  simp only [Exp.isAlways, Exp.served] at ha ⊢
  simp [ha]

/-- Expectations for different functions never influence one another: what a call to `f` reports and
returns is the same before and after any declaration or call concerning another function `g`. -/
theorem C06_independent (s : MState) (op : Op) (g f : Nat) (hop : op.fn? = some g) (hg : f ≠ g) (args : List Int) :
    (call (step s op).1 f args).2 = (call s f args).2 := by
  have hstep : proj f (step s op).1.q = proj f s.q ∧ (step s op).1.mode = s.mode := by
    cases op with
    | decl k f' r c =>
      obtain rfl : f' = g := by simpa [Op.fn?] using hop
      obtain ⟨_, _, h3, _, h5⟩ := declare_refines s k f' r c
      exact ⟨h3 f hg, h5⟩
    | call f' a =>
      obtain rfl : f' = g := by simpa [Op.fn?] using hop
      obtain ⟨_, _, h3, _, h5⟩ := call_refines s f' a
      exact ⟨h3 f hg, h5⟩
    | tally => simp [Op.fn?] at hop
    | mode m => simp [Op.fn?] at hop
  exact call_out_congr _ _ f args hstep.1 hstep.2

/-- The defect found on the way (F06), as a statement about the previous `ttlOf`: a `times(0)`
expectation with time to live 0 was still found by the next call. -/
theorem C06_F06_witness :
    (call { q := [{ id := 0, fn := 0, ttl := 0, times := some 0, ret := 8 }] } 0 []).2 = [.ret 8]
    ∧ (call { q := [{ id := 0, fn := 0, ttl := ttlOf (.expect (some 0)), times := some 0, ret := 8 }] } 0 []).2
        = [.check (some 0) false, .ret 0] := by decide

example : (run {} [.decl (.expect (some 2)) 1 7 [⟨0, .eq, 3⟩], .decl (.expect none) 0 9 [], .call 1 [3], .call 0 [], .call 1 [4], .call 1 [3], .tally]).2
    = [[], [], [.check (some 0) true, .ret 7], [.ret 9], [.check (some 0) false, .ret 7], [.check none false, .ret 0], []] := by decide

end Cgreen
