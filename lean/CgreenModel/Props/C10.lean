import CgreenModel.Model.Format
/-!
# C10 — failure messages show the asserted expression and values literally
-/
namespace Cgreen
open Fmt

theorem expandNoArgs_percent_percent (s : Str) :
    expandNoArgs ('%' :: '%' :: s) = (expandNoArgs s).map ('%' :: ·) := rfl

theorem expandNoArgs_cons {c : Char} (hc : c ≠ '%') (s : Str) :
    expandNoArgs (c :: s) = (expandNoArgs s).map (c :: ·) := by
  cases s <;> simp [expandNoArgs, hc]

/-- Printing a percent-doubled text without arguments gives back the text, for every text:
percent signs and printf-like sequences in expression texts and string values come out literally,
and no argument is ever read. -/
theorem C10_double_then_print (s : Str) : expandNoArgs (doublePercent s) = some s := by
  induction s with
  | nil => rfl
  | cons c s ih =>
    unfold doublePercent
    split
    next hc => rw [expandNoArgs_percent_percent, ih, eq_of_beq hc]; rfl
    next hc => rw [expandNoArgs_cons (by simpa using hc), ih]; rfl

/-- The message a reporter prints for a failed constraint is the literal message — for every
expression text, every value text and every template. -/
theorem C10_assert_message (f1 f2 f3 : Bool) (t : Tmpl) (name actualText expectedText actualValue expectedValue : Str) :
    expandNoArgs (failureMessage f1 f2 f3 t name actualText expectedText actualValue expectedValue)
      = some (literalMessage f1 f2 f3 t name actualText expectedText actualValue expectedValue) :=
  C10_double_then_print _

theorem literalMessage_full (t : Tmpl) (name aText eText aVal eVal : Str) :
    literalMessage true true true t name aText eText aVal eVal =
      [tExpected, aText, tTo, name, tClose, tOpen, eText, tClose,
        t.aLabel, aVal, t.aClose, tNl, t.eLabel, eVal, t.eClose].flatten := by
  simp only [literalMessage, if_true, List.flatten_cons, List.flatten_nil, List.append_assoc, List.append_nil]

/-- … and it contains, verbatim, the source text of the actual and of the expected expression and
both values. -/
theorem C10_contains (t : Tmpl) (name actualText expectedText actualValue expectedValue : Str) :
    actualText <:+: literalMessage true true true t name actualText expectedText actualValue expectedValue
    ∧ expectedText <:+: literalMessage true true true t name actualText expectedText actualValue expectedValue
    ∧ actualValue <:+: literalMessage true true true t name actualText expectedText actualValue expectedValue
    ∧ expectedValue <:+: literalMessage true true true t name actualText expectedText actualValue expectedValue := by
  rw [literalMessage_full]
  refine ⟨?_, ?_, ?_, ?_⟩ <;> exact List.infix_of_mem_flatten (by simp only [List.mem_cons, true_or, or_true])

/-- Witness of findings F09–F11 on the model of the old behaviour: an undoubled `%d` in the expected
text makes the final print read an argument that does not exist. -/
theorem C10_F09_witness : expandNoArgs "Expected [a] to [equal] [b %d]".toList = none := by
  -- to the kernel the literal is `String.ofList` of its characters; this spares it the UTF-8 decoder
  rw [String.toList_ofList]; decide +kernel

example : wellTyped "[%s] should be [%ld] but was [%ld]\n".toList [.cstr, .long, .long] = true := by
  rw [String.toList_ofList]; decide +kernel
example : wellTyped "[%s] should be [%d] but was [%d]\n".toList [.cstr, .long, .long] = false := by
  rw [String.toList_ofList]; decide +kernel
example : wellTyped "\n\t\tactual value:\t\t\t[0x%lx]".toList [.long] = true := by
  rw [String.toList_ofList]; decide +kernel

/-! ### The message buffer is large enough (the terms of the size are re-extracted from the C on every run, see
`message_size_covers` in the generated file) -/

/-- The size `literal_failure_message_for()` allocates: the lengths of the four fixed templates it adds up
(`fixedLen`), of the constraint's two value templates, of the three texts it is given, its slack, and — for
string constraints — of the two strings. -/
def messageSize (fixedLen aTmplLen eTmplLen nameLen expectedTextLen actualTextLen slack stringsLen : Nat) : Nat :=
  fixedLen + aTmplLen + eTmplLen + expectedTextLen + nameLen + actualTextLen + slack + stringsLen

theorem ite_nil_prefix {α} (b : Bool) (l : List α) : (if b then l else []) <+: l := by
  cases b <;> simp

/-- Whatever is left out, it is left out at the end. -/
theorem literalMessage_prefix_full (f1 f2 f3 : Bool) (t : Tmpl) (name aText eText aVal eVal : Str) :
    literalMessage f1 f2 f3 t name aText eText aVal eVal <+: literalMessage true true true t name aText eText aVal eVal := by
  simp only [literalMessage, if_true, List.prefix_append_right_inj]
  exact (ite_nil_prefix f1 _).trans <| (List.prefix_append_right_inj _).2 <|
    (ite_nil_prefix f2 _).trans <| (List.prefix_append_right_inj _).2 <| ite_nil_prefix f3 _

/-- The allocated size is enough for the literal message and its terminator, for all texts and values: the
templates are at least as long as what they print around their conversions, and a value that is not a string
the size accounts for is at most `vmax` characters (a decimal or hexadecimal `intptr_t`), twice within the slack. -/
theorem C10_buffer_suffices (f1 f2 f3 : Bool) (t : Tmpl) (name aText eText aVal eVal : Str)
    (fixedLen aTmplLen eTmplLen slack aStr eStr vmax : Nat)
    (hfixed : tExpected.length + tTo.length + tClose.length + tOpen.length + tClose.length + tNl.length ≤ fixedLen)
    (ha : t.aLabel.length + t.aClose.length ≤ aTmplLen) (he : t.eLabel.length + t.eClose.length ≤ eTmplLen)
    (hav : aVal.length ≤ vmax + aStr) (hev : eVal.length ≤ vmax + eStr) (hslack : 2 * vmax + 2 ≤ slack) :
    (literalMessage f1 f2 f3 t name aText eText aVal eVal).length + 2
      ≤ messageSize fixedLen aTmplLen eTmplLen name.length eText.length aText.length slack (aStr + eStr) := by
  refine Nat.le_trans (Nat.add_le_add_right (literalMessage_prefix_full ..).length_le 2) ?_
  -- for the full message the claim is the sum of the six hypotheses
  have h := Nat.add_le_add (Nat.add_le_add (Nat.add_le_add (Nat.add_le_add (Nat.add_le_add hfixed ha) he) hav) hev) hslack
  simp +arith only [literalMessage, if_true, List.length_append, messageSize] at h ⊢
  exact h

end Cgreen
