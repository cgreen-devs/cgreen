import CgreenModel.Lemmas.Runner
import CgreenModel.Props.C01
import CgreenModel.Props.C03
/-!
# C02 — a test process that dies is one exception and harms no other test

A death point is any position in the test's script (`Act.die` anywhere in setup, body, teardown), any
named point of the framework's child-side path, before/after any record write, or after the
completion notice (`KillPlan`); a way of dying is any `Death`. `Test.abnormal` says the process ended
abnormally. Forked execution (`Mode.fork`).
-/
namespace Cgreen

/-- Lines that belong to one test. -/
def Out.isTestLine : Out → Bool
  | .failLines .. => true | .excLine .. => true | .testEnd .. => true
  | _ => false

/-- The dying test is exactly one exception … -/
theorem C02_one_exception (cap : Nat) (su td : Bool) (x : Test) (hab : x.abnormal cap su td = true) :
    (x.truth cap su td).e = 1 := by
  rw [C01_exception_iff]; simp [hab]

/-- … shown as exactly one exception line, under its own path … -/
theorem C02_one_exception_line (cap : Nat) (su td : Bool) (tp : List String) (x : Test) (hab : x.abnormal cap su td = true) :
    ((x.results cap su td tp).filter (fun o => match o with | .excLine _ => true | _ => false)) = [Out.excLine tp] := by
  rw [Test.results_eq, hab]; cases x.xskip <;> rfl

/-- … and every result it delivered before dying is counted: its passes and failures are the pass and
fail records it wrote, whatever happened afterwards. -/
theorem C02_delivered_counted (cap : Nat) (su td : Bool) (x : Test) (hx : x.xskip = false) :
    (x.truth cap su td).p = ((runCode cap [] su td x).pipe.filter (· == .pass)).length
    ∧ (x.truth cap su td).f = ((runCode cap [] su td x).pipe.filter (· == .fail)).length := by
  simp [Test.truth, hx, Proc.truth_eq]

/-- The verdict of a run in which some test, anywhere in the tree, ended abnormally is failure. -/
theorem C02_verdict (cap : Nat) (hcap : 0 < cap) (t : Tree) (hok : t.AllOk cap .fork)
    (x : Bool × Bool × Test) (hmem : x ∈ t.allTests) (hab : x.2.2.abnormal cap x.1 x.2.1 = true) :
    verdict (run ⟨cap, .fork, r⟩ t) = some 1 := by
  rw [C01_verdict cap hcap .fork r t hok, if_neg]
  intro h
  have := ((C01_anywhere cap t).mp h x hmem).2
  rw [C02_one_exception cap _ _ _ hab] at this
  cases this

theorem results_isTestLine (cap : Nat) (su td : Bool) (tp : List String) (t : Test) :
    (t.results cap su td tp).filter Out.isTestLine = t.results cap su td tp := by
  rw [Test.results_eq]; cases t.xskip <;> cases t.abnormal cap su td <;> rfl

theorem resultsTests_isTestLine (cap : Nat) (su td : Bool) (path : List String) (ts : List Test) :
    (resultsTests cap su td path ts).filter Out.isTestLine = resultsTests cap su td path ts := by
  induction ts with
  | nil => simp [resultsTests]
  | cons t ts ih => simp [resultsTests, List.filter_append, results_isTestLine, ih]

/-- Every other test yields exactly the results it yields when the dying test is absent: the test
lines of the run with `x` are the test lines of the run without `x` with `x`'s own lines inserted at
its position — for every history `pre` (tests that skip, fail, die themselves) and every `post`. -/
theorem C02_others_unaffected (cap : Nat) (hcap : 0 < cap) (name : String) (su td : Bool) (subs : List Tree)
    (pre post : List Test) (x : Test)
    (hok : (Tree.node name su td subs (pre ++ x :: post)).AllOk cap .fork)
    (hok' : (Tree.node name su td subs (pre ++ post)).AllOk cap .fork) :
    ∃ before after,
      ((run ⟨cap, .fork, r⟩ (.node name su td subs (pre ++ post))).out.filter Out.isResult).filter Out.isTestLine
        = before ++ after
      ∧ ((run ⟨cap, .fork, r⟩ (.node name su td subs (pre ++ x :: post))).out.filter Out.isResult).filter Out.isTestLine
        = before ++ x.results cap su td ([name] ++ [x.name]) ++ after := by
  rw [C03_results cap hcap .fork r _ hok, C03_results cap hcap .fork r _ hok']
  refine ⟨(resultsSubs cap [name] subs).filter Out.isTestLine ++ resultsTests cap su td [name] pre,
          resultsTests cap su td [name] post, ?_, ?_⟩
  · simp [Tree.results, List.filter_append, resultsTests_append, resultsTests_isTestLine, Out.isTestLine,
      List.append_assoc]
  · simp [Tree.results, List.filter_append, resultsTests_append, resultsTests_isTestLine, Out.isTestLine,
      List.append_assoc, resultsTests, results_isTestLine]

/-- The hypothesis excluded by `Test.ok` is a real failure of the full statement (finding F02): a test
that calls `skip_test()` and then dies is reported as skipped, not as an exception. -/
theorem C02_F02_witness :
    (run ⟨4096, .fork, .text⟩ (.node "top" false false [] [{ name := "t", body := [.skip, .die (.signal 11)] }])).tot = ⟨0, 0, 1, 0⟩ := by
  decide

/-! Non-vacuity: dying tests of every kind meet the hypotheses. -/
example : ({ name := "v", body := [.check true, .check false], kill := some { atWrite := some (2, true), how := .exit0 } } : Test).abnormal 4096 false false = true := by decide
example : ({ name := "v", body := [.check true], kill := some { late := true, how := .signal 6 } } : Test).abnormal 4096 false false = true := by decide
example : ({ name := "v", body := [.check true], kill := some { late := true, how := .exit0 } } : Test).abnormal 4096 false false = false := by decide
example : (Tree.node "top" false false [] [{ name := "a", body := [.skip] }, { name := "v", body := [.check false, .die .uexit0] }, { name := "b", body := [.check true] }]).AllOk 4096 .fork := by
  simp [Tree.AllOk, allOkSubs, Test.ok, Proc.ok]; decide

end Cgreen
