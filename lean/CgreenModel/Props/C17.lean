import CgreenModel.Lemmas.Runner
import CgreenModel.Props.C01
import CgreenModel.Props.C03
/-!
# C17 — all reporters agree on what happened
The built-in reporters share the result reader and the folding of suite counters into totals; they
differ in presentation and in how they finish a suite (`Reporter.suiteViaFinishTest`). What each of
them *shows* of the abstract result lines is a projection (harness/scenario.py, `model_proj`); here it
is proved that the lines themselves, the counts and the verdict do not depend on the reporter.
-/
namespace Cgreen

/-- Every count, every result line (hence the attribution of every failure and exception) and the
verdict are the same under any two reporters, for every tree and both execution modes. -/
theorem C17_agree (cap : Nat) (hcap : 0 < cap) (m : Mode) (r₁ r₂ : Reporter) (t : Tree) (hok : t.AllOk cap m) :
    (run ⟨cap, m, r₁⟩ t).tot = (run ⟨cap, m, r₂⟩ t).tot
    ∧ (run ⟨cap, m, r₁⟩ t).out.filter Out.isResult = (run ⟨cap, m, r₂⟩ t).out.filter Out.isResult
    ∧ verdict (run ⟨cap, m, r₁⟩ t) = verdict (run ⟨cap, m, r₂⟩ t) :=
  run_independent cap hcap m m r₁ r₂ t hok hok

/-- The one piece of logic in which reporters differ is exercised: on a channel whose suite completion
notice is missing, a reporter that finishes suites through `finish_test` counts an exception and one
that does not, doesn't — so the agreement above is a theorem about the runner (the notice is always
there), not a triviality of the model. -/
theorem C17_difference_is_real :
    (finishSuite ⟨0, .fork, .cute⟩ {} ["top"]).halted = some (.signal 13)
    ∧ ((let s : St := {}; let r := readResults s.cur false [];
        if Reporter.cute.suiteViaFinishTest && r.2.2 = .notReceived then r.1 + Rec.exception.cnt else r.1) = ⟨0, 0, 0, 1⟩)
    ∧ ((let s : St := {}; let r := readResults s.cur false [];
        if Reporter.text.suiteViaFinishTest && r.2.2 = .notReceived then r.1 + Rec.exception.cnt else r.1) = ⟨0, 0, 0, 0⟩) := by
  decide

example : (run ⟨4096, .fork, .cdash⟩ exampleTree).tot = (run ⟨4096, .fork, .xml⟩ exampleTree).tot := by decide

end Cgreen
