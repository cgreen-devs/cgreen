import CgreenModel.Lemmas.Runner
/-!
# C18 — no result is lost or misplaced however many checks a test makes
`cap` is the capacity of the result channel in records (measured on the implementation, 4096 here);
the theorems hold for every capacity and every number of checks.
-/
namespace Cgreen

def manyChecks (name : String) (k : Nat) (ok : Bool) : Test := { name := name, body := List.replicate k (.check ok) }

/-- One check by a live process without a kill plan: the record is written if the channel has room, otherwise the
process is ended by SIGPIPE. -/
theorem check_live (cap : Nat) (ok : Bool) (pr : Proc) (hd : pr.dead = none) (hk : pr.killWrite = none) :
    (pr.check cap ok).pipe = (if pr.pipe.length < cap then pr.pipe ++ [recOf ok] else pr.pipe)
    ∧ (pr.check cap ok).dead = (if pr.pipe.length < cap then none else some (.signal 13))
    ∧ (pr.check cap ok).killWrite = none ∧ (pr.check cap ok).late = pr.late ∧ (pr.check cap ok).decls = pr.decls := by
  by_cases hroom : pr.pipe.length < cap <;> simp [Proc.check, Proc.send, hd, hk, hroom]

/-- `k` checks by such a process: as many records as the channel has room for are written; a check that finds it
full ends the process. -/
theorem steps_checks (cap : Nat) (ok : Bool) : ∀ (k : Nat) (pr : Proc), pr.dead = none → pr.killWrite = none →
    (pr.steps cap (List.replicate k (Step.act (.check ok)))).pipe
        = pr.pipe ++ List.replicate (min k (cap - pr.pipe.length)) (recOf ok)
    ∧ (pr.steps cap (List.replicate k (Step.act (.check ok)))).dead
        = (if k ≤ cap - pr.pipe.length then none else some (.signal 13))
    ∧ (pr.steps cap (List.replicate k (Step.act (.check ok)))).killWrite = none
    ∧ (pr.steps cap (List.replicate k (Step.act (.check ok)))).late = pr.late
    ∧ (pr.steps cap (List.replicate k (Step.act (.check ok)))).decls = pr.decls := by
  intro k
  induction k with
  | zero => intro pr hd hk; simp [Proc.steps, hd, hk]
  | succ k ih =>
    intro pr hd hk
    obtain ⟨c1, c2, c3, c4, c5⟩ := check_live cap ok pr hd hk
    simp only [List.replicate_succ, Proc.steps, Proc.step]
    by_cases hroom : pr.pipe.length < cap
    · rw [if_pos hroom] at c1 c2
      obtain ⟨h1, h2, h3, h4, h5⟩ := ih (pr.check cap ok) c2 c3
      rw [c1] at h1 h2
      simp only [List.length_append, List.length_singleton] at h1 h2
      refine ⟨?_, ?_, h3, h4.trans c4, h5.trans c5⟩
      · rw [h1, List.append_assoc, List.singleton_append, ← List.replicate_succ]
        congr 2; omega
      · rw [h2]; by_cases h : k + 1 ≤ cap - pr.pipe.length <;> simp [h] <;> omega
    · rw [if_neg hroom] at c1 c2
      have h0 : cap - pr.pipe.length = 0 := by omega
      rw [steps_dead cap _ _ (by simp [c2])]
      simp [c1, c2, c3, c4, c5, h0]

/-- What the process of a test with `k` checks leaves: the records the channel has room for, the completion notice
if there is room for it as well, and otherwise a process ended by SIGPIPE. -/
theorem runCode_manyChecks (cap k : Nat) (ok : Bool) (name : String) :
    (runCode cap [] false false (manyChecks name k ok)).pipe
        = List.replicate (min k cap) (recOf ok) ++ (if k < cap then [.completion] else [])
    ∧ (runCode cap [] false false (manyChecks name k ok)).dead = (if k < cap then none else some (.signal 13))
    ∧ (runCode cap [] false false (manyChecks name k ok)).late = none := by
  have hscript : scriptOf false false (manyChecks name k ok)
      = [Step.ev .body] ++ (List.replicate k (Step.act (.check ok)) ++ [Step.ev .tally, Step.tallyNow]) := by
    simp [scriptOf, script, manyChecks, List.map_replicate]
  obtain ⟨h1, h2, h3, h4, h5⟩ := steps_checks cap ok k
    { pipe := [], trace := [.body], killWrite := none, how := .signal 9 } rfl rfl
  simp only [List.length_nil, Nat.sub_zero, List.nil_append] at h1 h2
  have h4 : _ = none := h4
  have h5 : _ = [] := h5
  unfold runCode
  rw [hscript, Proc.steps_append, Proc.steps_append]
  have h0 : Proc.steps cap { pipe := [], killWrite := (planOf (manyChecks name k ok)).atWrite, how := (planOf (manyChecks name k ok)).how } [Step.ev .body]
      = { pipe := [], trace := [.body], killWrite := none, how := .signal 9 } := rfl
  rw [h0]
  generalize Proc.steps cap _ (List.replicate k (Step.act (.check ok))) = q at h1 h2 h3 h4 h5
  -- the checks and the notice fit; the checks fit but not the notice; not even the checks fit
  by_cases hlt : k < cap
  · have hd : q.dead = none := by rw [h2, if_pos (by omega)]
    rw [Nat.min_eq_left (by omega)] at h1 ⊢
    simp [Proc.steps, Proc.step, Proc.checks, Proc.sendCompletion, planOf, manyChecks, hd, h5, h3, h4, hlt, h1]
  · rw [Nat.min_eq_right (by omega)] at h1 ⊢
    by_cases hk : k = cap
    · have hd : q.dead = none := by rw [h2, if_pos (by omega)]
      simp [Proc.steps, Proc.step, Proc.checks, Proc.sendCompletion, hd, h5, h3, h4, hlt, h1]
    · have hd : q.dead = some (.signal 13) := by rw [h2, if_neg (by omega)]
      rw [steps_dead cap _ q (by simp [hd])]
      simp [Proc.sendCompletion, hd, h4, hlt, h1]

/-- A test with `k` checks (all passing or all failing) on a channel of capacity `cap`:
if the checks and the completion notice fit, all `k` are counted and the test completes;
otherwise exactly `cap` are counted and the test is one exception. Nothing is dropped silently,
nothing is duplicated. -/
theorem C18_counts (cap k : Nat) (ok : Bool) (name : String) :
    (manyChecks name k ok).truth cap false false =
      if k + 1 ≤ cap then (if ok then ⟨k, 0, 0, 0⟩ else ⟨0, k, 0, 0⟩)
      else (if ok then ⟨cap, 0, 0, 1⟩ else ⟨0, cap, 0, 1⟩) := by
  obtain ⟨hp, hd, hl⟩ := runCode_manyChecks cap k ok name
  have hx : (manyChecks name k ok).xskip = false := rfl
  simp only [Test.truth, hx, Bool.false_eq_true, if_false, Proc.truth_eq, Proc.abnormal, hp, hd, hl]
  by_cases hfit : k < cap <;> cases ok <;>
    simp [hfit, recOf, List.filter_append, Nat.succ_le_iff] <;> omega

/-- … and the overflowing test is an instance the refinement theorem covers (it never skipped), so the
run reports exactly these counts for it, an exception and a failing verdict when it overflowed, and
every other test as if it were absent (C02, C03). -/
theorem C18_ok (cap k : Nat) (ok : Bool) (name : String) : (manyChecks name k ok).ok cap .fork false false := by
  refine fun _ => ⟨fun _ => ?_, fun h => nomatch h⟩
  rw [(runCode_manyChecks cap k ok name).1]
  cases ok <;> simp [recOf, List.mem_replicate] <;> split <;> simp

/-- The run with an overflowing test: exactly `cap` results and one exception are reported for it. -/
example : (run ⟨4, .fork, .text⟩ (.node "top" false false [] [manyChecks "big" 9 true, manyChecks "next" 2 false])).tot = ⟨4, 2, 0, 1⟩ := by decide
example : (manyChecks "t" 4095 true).truth 4096 false false = ⟨4095, 0, 0, 0⟩ := by rw [C18_counts]; simp
example : (manyChecks "t" 4096 true).truth 4096 false false = ⟨4096, 0, 0, 1⟩ := by rw [C18_counts]; simp

end Cgreen
