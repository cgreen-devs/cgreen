import CgreenModel.Model.Select
import CgreenModel.Lemmas.Lines
/-!
# C09 — cgreen-runner runs exactly the tests that are defined and selected
-/
namespace Cgreen
open Sel

/-- An identifier that survives the `__`-separated symbol encoding: no two consecutive underscores and
no underscore at the end. -/
def good : Str → Bool
  | [] => true
  | [c] => c != '_'
  | c :: d :: s => !(c == '_' && d == '_') && good (d :: s)

theorem splitAtSep_good (s t : Str) (h : good s = true) : splitAtSep (s ++ sep ++ t) = some (s, t) := by
  induction s using good.induct with
  | case1 => simp [sep, splitAtSep]
  | case2 c =>
    have hc : (c == '_') = false := by simpa [good] using h
    simp [sep, splitAtSep, hc]
  | case3 c d s ih =>
    simp only [good, Bool.and_eq_true, Bool.not_eq_true'] at h
    have := ih h.2
    simp only [List.cons_append, List.append_assoc] at this ⊢
    simp [splitAtSep, h.1, this]

/-- Discovery: the symbol the `Ensure` macro defines parses back to its context and name. -/
theorem C09_discover (i : Item) (hc : good i.ctx = true) (hn : good i.name = true) :
    parseSpec (specSymbol i) = some i := by
  have hp : prefixSpec.isPrefixOf (specSymbol i) = true := by simp [specSymbol, List.append_assoc]
  have hd : (specSymbol i).drop prefixSpec.length = i.ctx ++ sep ++ (i.name ++ sep ++ []) := by
    simp [specSymbol, List.append_assoc]
  simp only [parseSpec, hp, if_true, hd, splitAtSep_good _ _ hc, splitAtSep_good _ _ hn]

/-! ### Pattern matching -/

/-- What a pattern of literals and `*` means: each `*` stands for an arbitrary (possibly empty) string. -/
inductive Matches : Str → Str → Prop
  | nil : Matches [] []
  | star (p s t : Str) : Matches p t → Matches ('*' :: p) (s ++ t)
  | char (c : Char) (p s : Str) : c ≠ '*' → Matches p s → Matches (c :: p) (c :: s)

theorem globF_nil (n : Nat) (s : Str) : globF (n + 1) [] s = s.isEmpty := rfl

theorem globF_star (n : Nat) (p s : Str) :
    globF (n + 1) ('*' :: p) s = true ↔ globF n p s = true ∨ ∃ d t, d :: t = s ∧ globF n ('*' :: p) t = true := by
  cases s <;> simp [globF, and_assoc]

theorem globF_char (n : Nat) (c : Char) (p s : Str) (hc : c ≠ '*') :
    globF (n + 1) (c :: p) s = true ↔ ∃ t, c :: t = s ∧ globF n p t = true := by
  cases s <;> simp [globF, hc, and_assoc]

theorem matches_nil (s : Str) : Matches [] s ↔ s = [] :=
  ⟨fun h => by cases h; rfl, fun h => h ▸ .nil⟩

/-- The star stands for nothing, or for one character more than it does for the rest of the string. -/
theorem matches_star (p s : Str) :
    Matches ('*' :: p) s ↔ Matches p s ∨ ∃ d t, d :: t = s ∧ Matches ('*' :: p) t := by
  constructor
  · intro h
    cases h with
    | star _ a t h =>
      cases a with
      | nil => exact .inl h
      | cons d a => exact .inr ⟨d, a ++ t, rfl, .star p a t h⟩
    | char _ _ _ hc => exact absurd rfl hc
  · rintro (h | ⟨d, t, rfl, h⟩)
    · exact .star p [] s h
    · cases h with
      | star _ a t h => exact .star p (d :: a) t h
      | char _ _ _ hc => exact absurd rfl hc

theorem matches_char (c : Char) (p s : Str) (hc : c ≠ '*') : Matches (c :: p) s ↔ ∃ t, c :: t = s ∧ Matches p t :=
  ⟨fun h => by
    cases h with
    | star => exact absurd rfl hc
    | char _ _ t _ h => exact ⟨t, rfl, h⟩,
   fun ⟨t, e, h⟩ => e ▸ .char c p t hc h⟩

/-- With enough fuel `globF` decides `Matches`: the two obey the same recursion equations. -/
theorem globF_iff (n : Nat) (p s : Str) (h : p.length + s.length < n) : globF n p s = true ↔ Matches p s := by
  induction n generalizing p s with
  | zero => omega
  | succ n ih =>
    cases p with
    | nil => rw [globF_nil, matches_nil, List.isEmpty_iff]
    | cons c p =>
      simp only [List.length_cons] at h
      by_cases hc : c = '*'
      · subst hc
        rw [globF_star, matches_star, ih p s (by omega)]
        refine or_congr Iff.rfl (exists_congr fun d => exists_congr fun t => and_congr_right fun e => ih _ t ?_)
        subst e; simp only [List.length_cons] at h ⊢; omega
      · rw [globF_char _ _ _ _ hc, matches_char _ _ _ hc]
        refine exists_congr fun t => and_congr_right fun e => ih p t ?_
        subst e; simp only [List.length_cons] at h; omega
/-- The runner's matching is exactly the meaning of the pattern. -/
theorem C09_glob (p s : Str) : glob p s = true ↔ Matches p s := globF_iff _ p s (Nat.lt_succ_self _)

/-! ### Sorting loses nothing -/

theorem insertSorted_perm (x : Item) (l : List Item) : (insertSorted x l).Perm (x :: l) := by
  induction l with
  | nil => exact List.Perm.refl _
  | cons y ys ih =>
    simp only [insertSorted]
    split
    · exact List.Perm.refl _
    · exact (List.Perm.cons y ih).trans (List.Perm.swap x y ys)

theorem sortItems_perm (l : List Item) : (sortItems l).Perm l := by
  induction l with
  | nil => exact List.Perm.refl _
  | cons x xs ih => exact (insertSorted_perm x _).trans (List.Perm.cons x ih)

theorem selected_perm (pat : Option Str) {l l' : List Item} (h : l.Perm l') : (selected pat l).Perm (selected pat l') := by
  cases pat with
  | none => exact h
  | some p => exact h.filter _

/-- What `runner()` does with a library, in one equation: it executes the selection from the sorted list (also when that is
empty) and reports failure when nothing was selected or a selected test fails. -/
theorem runLibrary_eq (tests : List Item) (pat : Option Str) (fails : Item → Bool) :
    runLibrary tests pat fails
      = ⟨selected pat (sortItems tests), (selected pat (sortItems tests)).isEmpty || (selected pat (sortItems tests)).any fails⟩ := by
  simp only [runLibrary]
  split
  · next h => rw [List.isEmpty_iff.mp h]; cases pat <;> rfl
  · split
    · next h => rw [h, List.isEmpty_iff.mp h]; rfl
    · next h => rw [Bool.eq_false_iff.mpr h, Bool.false_or]

/-- Selection: the tests executed for a library are exactly the discovered tests that match the pattern
(all of them without a pattern), each exactly once — whether one, several or all match. -/
theorem C09_select (tests : List Item) (hne : tests ≠ []) (pat : Option Str) (fails : Item → Bool) :
    (runLibrary tests pat fails).executed.Perm (selected pat tests) := by
  -- `hne` is not needed: of no tests none is selected
  rw [runLibrary_eq]
  exact selected_perm pat (sortItems_perm tests)

/-- A pattern that matches nothing, or a library without tests, is a failure: no selected test is ever
silently left unexecuted. -/
theorem C09_no_match_fails (tests : List Item) (pat : Option Str) (fails : Item → Bool)
    (h : selected pat tests = []) : (runLibrary tests pat fails).failure = true := by
  have hperm := selected_perm pat (sortItems_perm tests)
  rw [h] at hperm
  rw [runLibrary_eq, hperm.eq_nil]
  rfl

/-- Otherwise the library reports failure exactly when an executed test fails. -/
theorem C09_status (tests : List Item) (pat : Option Str) (fails : Item → Bool)
    (h : (runLibrary tests pat fails).executed ≠ []) :
    (runLibrary tests pat fails).failure = (runLibrary tests pat fails).executed.any fails := by
  rw [runLibrary_eq] at h ⊢
  exact (congrArg (· || _) (List.isEmpty_eq_false_iff.mpr h)).trans (Bool.false_or _)

/-- A missing library makes the whole run fail. -/
theorem C09_missing_library (exists_ : Str → Bool) (lib : Str → List Item) (fails : Item → Bool)
    (l : Str) (p : Option Str) (rest : List (Str × Option Str)) (h : exists_ l = false) :
    (runAll exists_ lib fails ((l, p) :: rest)).2 = true := by simp [runAll, h]

/-- The runner's exit status over several libraries, when all exist: failure exactly when some library's own run
reports failure — an earlier library's failure is never forgotten, whatever the later ones do. -/
theorem C09_all_libraries (exists_ : Str → Bool) (lib : Str → List Item) (fails : Item → Bool) :
    ∀ (args : List (Str × Option Str)), (∀ a ∈ args, exists_ a.1 = true) →
    (runAll exists_ lib fails args).2 = args.any (fun a => (runLibrary (lib a.1) a.2 fails).failure)
    ∧ (runAll exists_ lib fails args).1 = args.flatMap (fun a => (runLibrary (lib a.1) a.2 fails).executed) := by
  intro args
  induction args with
  | nil => intro _; simp [runAll]
  | cons a rest ih =>
    intro h
    obtain ⟨l, p⟩ := a
    have hl : exists_ l = true := h (l, p) List.mem_cons_self
    obtain ⟨i1, i2⟩ := ih (fun x hx => h x (List.mem_cons_of_mem _ hx))
    simp [runAll, hl, i1, i2]

/-- Witness of finding F20: with the pinned commit's single-match path a wildcard pattern that matches
exactly one test executed nothing and did not report failure. -/
theorem C09_F20_witness :
    let tests : List Item := [⟨"Ctx".toList, "alpha".toList⟩, ⟨"Ctx".toList, "beta".toList⟩]
    (runLibraryOld tests (some "Ctx:bet*".toList) (fun _ => true)) = ⟨[], false⟩
    ∧ (runLibrary tests (some "Ctx:bet*".toList) (fun _ => true)) = ⟨[⟨"Ctx".toList, "beta".toList⟩], true⟩ := by
  -- a literal is `String.ofList` of its characters: rewriting spares the kernel the decoding of UTF-8
  repeat rw [String.toList_ofList]
  decide +kernel

example : good "can_match_test_name".toList = true := by rw [String.toList_ofList]; decide +kernel
example : glob "T*:con*s".toList "Tcp:connects".toList = true := by
  rw [String.toList_ofList, String.toList_ofList]; decide +kernel

/-! ### From the symbol listing to the list of tests -/
namespace Lines

/-- One line of a symbol listing: a test (`<address> D CgreenSpec__<context>__<name>__`, where what precedes the
symbol does not contain the symbol's first letter) or anything that does not mention `CgreenSpec__`. -/
inductive Entry
  | test (pre : Str) (i : Item)
  | other (l : Str)

def Entry.line : Entry → Str
  | .test pre i => pre ++ definitionMark ++ specSymbol i
  | .other l => l

def Entry.item : Entry → Option Item
  | .test _ i => some i
  | .other _ => none

def Entry.ok : Entry → Prop
  | .test pre i => (∀ c ∈ pre, c ≠ 'C' ∧ c ≠ '\n') ∧ good i.ctx = true ∧ good i.name = true ∧ '\n' ∉ i.ctx ∧ '\n' ∉ i.name
  | .other l => findSub prefixSpec l = none ∧ '\n' ∉ l

def listing (es : List Entry) : Str := es.flatMap (fun e => e.line ++ ['\n'])

theorem entry_no_newline (e : Entry) (h : e.ok) : '\n' ∉ e.line := by
  cases e with
  | other l => exact h.2
  | test pre i =>
    obtain ⟨hpre, _, _, hc, hn⟩ := h
    have hp : '\n' ∉ pre := fun hm => (hpre _ hm).2 rfl
    have hs : '\n' ∉ sep := by decide
    simp [Entry.line, specSymbol, hp, hc, hn, hs, newline_not_mem_prefixSpec, newline_not_mem_definitionMark]

theorem splitLines_listing : ∀ es : List Entry, (∀ e ∈ es, e.ok) →
    splitLines (listing es) = es.map (fun e => e.line ++ ['\n'])
  | [], _ => rfl
  | e :: es, h => by
    have ih := splitLines_listing es (fun x hx => h x (List.mem_cons_of_mem _ hx))
    have hn := entry_no_newline e (h e List.mem_cons_self)
    have : listing (e :: es) = e.line ++ '\n' :: listing es := by simp [listing]
    rw [this, splitLines_line _ _ hn, ih]; rfl

theorem itemOfLine_entry (e : Entry) (h : e.ok) : itemOfLine (e.line ++ ['\n']) = e.item := by
  rw [itemOfLine, specOfLine_newline]
  cases e with
  | other l =>
    rw [Entry.line, h.1, ite_self]
    rfl
  | test pre i =>
    obtain ⟨hpre, hc, hn, _, _⟩ := h
    have hC : 'C' ∉ pre ++ definitionMark := by
      rw [List.mem_append, not_or]
      exact ⟨fun hm => (hpre _ hm).1 rfl, by decide +kernel⟩
    rw [Entry.line, if_pos (findSub_exists pre definitionMark (specSymbol i)), findSub_specSymbol _ i hC,
      Option.bind_some]
    exact C09_discover i hc hn

end Lines

open Lines in
/-- Discovery reads the listing right: whatever the lengths of the lines and whatever the size (from 3 bytes) of the
buffer they are read into, the tests found are exactly the tests listed, each once, in the listing's order. -/
theorem C09_discovery (size : Nat) (hsize : 3 ≤ size) (es : List Entry) (hok : ∀ e ∈ es, e.ok) :
    discover size (listing es) = es.filterMap Entry.item := by
  rw [discover, allLines_spec _ size (listing es) hsize (Nat.lt_succ_self _), splitLines_listing es hok]
  induction es with
  | nil => rfl
  | cons e es ih =>
    simp only [List.map_cons, List.filterMap_cons, itemOfLine_entry e (hok e List.mem_cons_self),
      ih fun x hx => hok x (List.mem_cons_of_mem _ hx)]

open Lines in
/-- From the bytes of the symbol listing to the tests executed: for a library that defines at least one test, whatever the
lengths of its lines, the tests executed are exactly the listed tests that match the pattern (all without one), each once. -/
theorem C09_from_listing (size : Nat) (hsize : 3 ≤ size) (es : List Entry) (hok : ∀ e ∈ es, e.ok)
    (hne : es.filterMap Entry.item ≠ []) (pat : Option Str) (fails : Item → Bool) :
    (runLibrary (discover size (listing es)) pat fails).executed.Perm (selected pat (es.filterMap Entry.item)) := by
  rw [C09_discovery size hsize es hok]
  exact C09_select _ hne pat fails

open Lines in
example : discover 20 (listing [.other "0000000000001000 T _init".toList,
      .test "0000000000004010".toList ⟨"Ctx".toList, "a_rather_long_test_name".toList⟩,
      .test "0000000000004018".toList ⟨"default".toList, "b".toList⟩])
    = [⟨"Ctx".toList, "a_rather_long_test_name".toList⟩, ⟨"default".toList, "b".toList⟩] := by
  repeat rw [String.toList_ofList]
  decide +kernel

end Cgreen
