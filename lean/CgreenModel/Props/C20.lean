import CgreenModel.Model.Vector
import CgreenModel.Lemmas.Lines
/-!
# C20 — cgreen's own bookkeeping is safe for any count
`CgreenVector` (expectation queue, constraint lists, parameter names, the runner's discovered-test
list): for every history of operations and every growth step, every slot the code touches is inside
the allocation, and the vector behaves like the plain list it represents — in particular at
`step−1`, `step`, `step+1` elements. The line buffer with which cgreen-runner reads a library's symbol listing
(tools/discoverer.c: `read_whole_line`) returns every line whole whatever its length (`C20_line_of_any_length`,
`C20_listing_read_whole`). Other fixed-size buffers and name lengths are covered by the sanitizer sweep of the
check (DESIGN.md), not by a theorem.
-/
namespace Cgreen
open Vec

theorem wf_empty : WF {} := by simp [WF]

theorem add_wf (stp : Nat) (hs : 0 < stp) (v : Vec) (x : Nat) (h : WF v) : WF (Vec.add stp v x).1 := by
  obtain ⟨h1, h2⟩ := h
  by_cases hf : v.size = v.space
  · simp only [Vec.add, WF, hf, if_true, grow, List.length_set, List.length_append, List.length_replicate, h1]
    exact ⟨trivial, by omega⟩
  · simp only [Vec.add, WF, hf, if_false, List.length_set, h1]
    exact ⟨trivial, by omega⟩

theorem take_set_append {α} (l : List α) (n : Nat) (x : α) (h : n < l.length) :
    (l.set n x).take (n + 1) = l.take n ++ [x] := by
  rw [List.take_succ_eq_append_getElem (by rwa [List.length_set]), List.take_set_of_le (Nat.le_refl n), List.getElem_set_self]

theorem add_spec (stp : Nat) (hs : 0 < stp) (v : Vec) (x : Nat) (h : WF v) :
    (∀ i ∈ (Vec.add stp v x).2, i < (Vec.add stp v x).1.space) ∧ abs (Vec.add stp v x).1 = abs v ++ [x] := by
  obtain ⟨h1, h2⟩ := h
  by_cases hf : v.size = v.space
  · simp only [Vec.add, abs, hf, if_true, grow, List.mem_singleton, forall_eq]
    refine ⟨by omega, ?_⟩
    rw [take_set_append _ _ _ (by simp [h1]; omega), List.take_append_of_le_length (by omega)]
  · have hlt : v.size < v.space := by omega
    simp only [Vec.add, abs, hf, if_false, List.mem_singleton, forall_eq]
    exact ⟨hlt, take_set_append _ _ _ (by omega)⟩

theorem shift_length (items : List Nat) (i n : Nat) : (shift items i n).1.length = items.length := by
  induction n generalizing items i with
  | zero => rfl
  | succ n ih => simp [shift, ih]

theorem shift_bounds (items : List Nat) (i n : Nat) : ∀ j ∈ (shift items i n).2, j ≤ i + n := by
  induction n generalizing items i with
  | zero => simp [shift]
  | succ n ih =>
    intro j hj
    simp only [shift, List.mem_cons] at hj
    rcases hj with rfl | rfl | hj
    · omega
    · omega
    · have := ih _ _ j hj; omega

/-- The loop moves the gap from slot `i` to slot `i + n`: one turn copies slot `i + 1` to slot `i`, and then erasing slot
`i + 1` gives what erasing slot `i` gave before. -/
theorem shift_eraseIdx (items : List Nat) (i n : Nat) (h : i + n < items.length) :
    (shift items i n).1.eraseIdx (i + n) = items.eraseIdx i := by
  induction n generalizing items i with
  | zero => rfl
  | succ n ih =>
    have hi : i + 1 < items.length := by omega
    rw [shift, ← Nat.add_assoc, Nat.add_right_comm, ih _ (i + 1) (by rw [List.length_set]; omega),
      List.eraseIdx_set_gt (Nat.lt_succ_self i), List.getD_eq_getElem?_getD, List.getElem?_eq_getElem hi,
      Option.getD_some, List.set_getElem_succ_eraseIdx_succ hi]

theorem take_eraseIdx_self {α} (l : List α) (m : Nat) : (l.eraseIdx m).take m = l.take m := by
  induction l generalizing m with
  | nil => rfl
  | cons a l ih => cases m <;> simp [ih]

theorem take_eraseIdx_of_le {α} (l : List α) (i m : Nat) (h : i ≤ m) :
    (l.eraseIdx i).take m = (l.take (m + 1)).eraseIdx i := by
  induction l generalizing i m with
  | nil => simp
  | cons a l ih =>
    cases i with
    | zero => simp
    | succ i =>
      cases m with
      | zero => omega
      | succ m => simp [ih i m (by omega)]

theorem remove_wf (v : Vec) (pos : Nat) (h : WF v) (v' : Vec) (item : Nat) (acc : List Nat)
    (hr : Vec.remove v pos = some (v', item, acc)) : WF v' := by
  obtain ⟨h1, h2⟩ := h
  simp only [Vec.remove] at hr
  split at hr
  · cases hr
    exact ⟨by simp only [List.length_set, shift_length, h1], Nat.le_trans (Nat.sub_le _ 1) h2⟩
  · cases hr

theorem abs_getD (v : Vec) (pos : Nat) (hp : pos < v.size) : (abs v).getD pos 0 = v.items.getD pos 0 := by
  simp [abs, List.getD_eq_getElem?_getD, hp]

/-- `cgreen_vector_remove` at a legal position: the loop runs once for every element behind `pos`. -/
theorem remove_eq (v : Vec) (pos k : Nat) (hk : v.size = pos + k + 1) :
    Vec.remove v pos = some ({ v with items := (shift v.items pos k).1.set (pos + k) 0, size := pos + k },
      v.items.getD pos 0, pos :: (shift v.items pos k).2 ++ [pos + k]) := by
  have hp : pos < pos + k + 1 := by omega
  simp only [Vec.remove, hk, hp, if_true, Nat.add_sub_cancel, Nat.add_sub_cancel_left]

/-- `cgreen_vector_remove` touches only slots below `size` (hence inside the allocation), returns the
element at `pos`, and what remains is the list with that element erased. -/
theorem remove_spec (v : Vec) (pos : Nat) (h : WF v) (hp : pos < v.size) :
    ∃ v' acc, Vec.remove v pos = some (v', (abs v).getD pos 0, acc)
      ∧ (∀ i ∈ acc, i < v.size) ∧ abs v' = (abs v).eraseIdx pos := by
  obtain ⟨k, hk⟩ := Nat.exists_eq_add_of_lt hp
  have hlen : pos + k < v.items.length := by have := h.1; have := h.2; omega
  rw [remove_eq v pos k hk, abs_getD v pos hp]
  refine ⟨_, _, rfl, ?_, ?_⟩
  · intro i hi
    simp only [List.cons_append, List.mem_cons, List.mem_append, List.not_mem_nil, or_false] at hi
    rcases hi with rfl | hi | rfl
    · exact hp
    · have := shift_bounds v.items pos k i hi; omega
    · omega
  · -- below `pos + k` the cleared slot plays no part, neither does erasing it
    simp only [abs]
    rw [List.take_set_of_le (Nat.le_refl _), ← take_eraseIdx_self, shift_eraseIdx v.items pos k hlen,
      take_eraseIdx_of_le _ _ _ (Nat.le_add_right pos k), hk]

/-- `cgreen_vector_get`: inside the allocation, and the element of the list. -/
theorem get_spec (v : Vec) (pos : Nat) :
    (pos < v.size → Vec.get v pos = some ((abs v).getD pos 0, [pos])) ∧ (¬ pos < v.size → Vec.get v pos = none) := by
  constructor
  · intro hp; simp only [Vec.get, hp, if_true, abs_getD v pos hp]
  · intro hp; simp [Vec.get, hp]

/-- Every operation preserves the representation invariant and touches only slots inside the allocation. -/
theorem step_safe (stp : Nat) (hs : 0 < stp) (v : Vec) (op : Op) (h : WF v) :
    WF (step stp v op).1 ∧ ∀ a ∈ (step stp v op).2.2, a.1 < a.2 := by
  cases op with
  | add x => exact ⟨add_wf stp hs v x h, List.forall_mem_map.mpr (add_spec stp hs v x h).1⟩
  | remove p =>
    by_cases hp : p < v.size
    · obtain ⟨v', acc, hr, hb, _⟩ := remove_spec v p h hp
      simp only [step, hr, List.forall_mem_map]
      exact ⟨remove_wf v p h v' _ acc hr, fun i hi => Nat.lt_of_lt_of_le (hb i hi) h.2⟩
    · simp [step, Vec.remove, hp, h]
  | get p =>
    by_cases hp : p < v.size
    · simp only [step, (get_spec v p).1 hp, List.forall_mem_map, List.mem_singleton, forall_eq]
      exact ⟨h, Nat.lt_of_lt_of_le hp h.2⟩
    · simp [step, (get_spec v p).2 hp, h]

/-- For every history of operations, starting from the empty vector and for every positive growth
step: no access outside the allocation. -/
theorem C20_vector_in_bounds (stp : Nat) (hs : 0 < stp) (ops : List Op) :
    ∀ a ∈ (run stp {} ops).2.2, a.1 < a.2 := by
  suffices h : ∀ v, WF v → ∀ a ∈ (run stp v ops).2.2, a.1 < a.2 from h {} wf_empty
  induction ops with
  | nil => intro v _ a ha; simp [run] at ha
  | cons o os ih =>
    intro v hv a ha
    simp only [run, List.mem_append] at ha
    obtain ⟨hi, hb⟩ := step_safe stp hs v o hv
    rcases ha with ha | ha
    · exact hb a ha
    · exact ih _ hi a ha

/-- The vector behaves as the list it represents, whatever the growth step: add appends, remove
erases and returns the element, get reads it. -/
theorem C20_vector_refines (stp : Nat) (hs : 0 < stp) (v : Vec) (h : WF v) :
    (∀ x, abs (Vec.add stp v x).1 = abs v ++ [x])
    ∧ (∀ p, p < v.size → ∃ v' acc, Vec.remove v p = some (v', (abs v).getD p 0, acc) ∧ abs v' = (abs v).eraseIdx p)
    ∧ (∀ p, p < v.size → Vec.get v p = some ((abs v).getD p 0, [p]))
    ∧ (∀ p, ¬ p < v.size → Vec.remove v p = none ∧ Vec.get v p = none) := by
  refine ⟨fun x => (add_spec stp hs v x h).2, ?_, fun p hp => (get_spec v p).1 hp, ?_⟩
  · intro p hp
    obtain ⟨v', acc, h1, _, h3⟩ := remove_spec v p h hp
    exact ⟨v', acc, h1, h3⟩
  · intro p hp; exact ⟨by simp [Vec.remove, hp], (get_spec v p).2 hp⟩

/-- Witness of finding F07: the old `cgreen_vector_remove`, on a vector that is exactly full (here
space = size = 2), touched slot `size`, which is outside the allocation. -/
theorem C20_F07_witness :
    ∃ v' item acc, removeOld { size := 2, space := 2, items := [7, 8] } 0 = some (v', item, acc) ∧ 2 ∈ acc := by
  refine ⟨_, _, _, rfl, ?_⟩; decide

example : (run 2 {} [.add 5, .add 6, .add 7, .remove 0, .get 1, .remove 5]).2.1 = [none, none, none, some 5, some 7, none] := by decide +kernel

/-! ### The discoverer's line buffer -/
open Lines in
/-- `read_whole_line`, for a buffer of any size from 3 bytes and a line of any length (with or without a line
feed at its end): the buffer ends up holding exactly the first line of the stream, the stream is left at the start
of the next line, every piece was read into memory the buffer owned at that moment, and the buffer (never
smaller than before) has room for the line and its terminator. -/
theorem C20_line_of_any_length (size : Nat) (s : Sel.Str) (hs : s ≠ []) (hsize : 3 ≤ size) :
    ∃ size', size ≤ size' ∧ (firstLine s).length + 2 ≤ size' ∧
      readWholeLine size s = ⟨some (firstLine s), size', afterLine s, true⟩ :=
  readWholeLine_spec size s hs hsize

open Lines in
/-- Reading a whole listing: the lines handed to the discoverer are the listing cut after each line feed —
independent of the buffer's initial size, so a line that exactly fills the buffer (or any multiple of it) is
treated as a short one is — and no piece was read outside the buffer. -/
theorem C20_listing_read_whole (size : Nat) (s : Sel.Str) (hsize : 3 ≤ size) :
    allLines (s.length + 1) size s = (splitLines s, true) :=
  allLines_spec _ size s hsize (Nat.lt_succ_self _)

open Lines in
/-- Nothing of the listing is lost, repeated or moved to another line. -/
theorem C20_lines_partition (s : Sel.Str) : (splitLines s).flatten = s := by
  induction s with
  | nil => rfl
  | cons c s ih =>
    by_cases hc : c = '\n'
    · simp [splitLines, hc, ih]
    · simp only [splitLines, hc, if_false]
      conv => rhs; rw [← ih]
      cases splitLines s <;> rfl

open Lines in
example : readWholeLine 4 "abcdefg\nxy".toList = ⟨some "abcdefg\n".toList, 16, "xy".toList, true⟩ := by
  -- a literal is `String.ofList` of its characters: rewriting spares the kernel the decoding of UTF-8
  repeat rw [String.toList_ofList]
  decide +kernel
open Lines in
example : (readWholeLine 4 "ab\nxy".toList).line = some "ab\n".toList := by   -- exactly fills the buffer
  rw [String.toList_ofList, String.toList_ofList]; decide +kernel

end Cgreen
