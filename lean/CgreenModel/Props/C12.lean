import CgreenModel.Model.Values
import CgreenModel.Lemmas.Mocks
/-!
# C12 — values pass through mocks unchanged
The model is thin here: what the theorems add is the quantifier (every 64-bit value, every size, every
address); that the C passes the right size and address is what the differential sweep under ASan with
guard bytes checks. Bit-preservation of `double` loads and stores by compiler and ABI is assumed.
-/
namespace Cgreen
open Val Mocks

/-- `will_return(v)`: the call served by that expectation returns exactly `v`, for every `v`. -/
theorem C12_will_return (s : MState) (f : Nat) (args : List Int) (e : Exp) (rest : List Exp)
    (hq : proj f s.q = e :: rest) (ha : e.isAlways = false) (hn : e.isNever = false) :
    (call s f args).2.getLast? = some (.ret e.ret) := by
  rw [(call_head s f args e rest hq ha hn).1]; simp

/-- `box_double` then `unbox_double` gives back the same 64 bits (NaN payloads, signed zeros,
subnormals, infinities included: the pattern is stored, not a number). -/
theorem C12_box_roundtrip (h : Heap) (bits : Word) :
    (unboxDouble (boxDouble h bits).1 (boxDouble h bits).2).2 = some bits := by
  simp [boxDouble, unboxDouble]

/-- `will_return_by_value`: a byte-identical copy of the first `size` bytes, however often it is served. -/
theorem C12_by_value (src : List UInt8) (size : Nat) : returnByValue src size = src.take size := by
  simp [returnByValue, List.take_take]

theorem readBytes_writeBytes (m : Mem) (p : Nat) (bs : List UInt8) :
    readBytes (writeBytes m p bs) p bs.length = bs := by
  apply List.ext_getElem (by simp [readBytes])
  intro i _ hi
  simp [readBytes, writeBytes, hi]

theorem writeBytes_of_not_mem (m : Mem) (p : Nat) (bs : List UInt8) (a : Nat) (h : a < p ∨ p + bs.length ≤ a) :
    writeBytes m p bs a = m a :=
  if_neg (by omega)

theorem readBytes_writeBytes_take (m : Mem) (p : Nat) (l : List UInt8) (size : Nat) (hs : size ≤ l.length) :
    readBytes (writeBytes m p (l.take size)) p size = l.take size := by
  have h := readBytes_writeBytes m p (l.take size)
  rwa [List.length_take, Nat.min_eq_left hs] at h

/-- `will_set_contents_of_output_parameter`: exactly the given bytes at the given place … -/
theorem C12_set_contents_written (m : Mem) (actual : Nat) (src : List UInt8) (size : Nat) (hs : size ≤ src.length) :
    readBytes (setContents m actual src size) actual size = src.take size :=
  readBytes_writeBytes_take m actual src size hs

/-- … and none beyond them: every other byte of memory is unchanged. -/
theorem C12_set_contents_frame (m : Mem) (actual : Nat) (src : List UInt8) (size : Nat) (a : Nat)
    (ha : a < actual ∨ actual + size ≤ a) : setContents m actual src size a = m a :=
  writeBytes_of_not_mem _ _ _ _ (by rw [List.length_take]; omega)

/-- The `k` low bytes of `n`, least significant first, denote `n` modulo `2^(8·k)`: the lowest byte is
`n % 256`, and the others are the `k` low bytes of `n / 256`. -/
theorem leValue_map_range (k : Nat) : ∀ n : Nat,
    leValue ((List.range k).map fun i => UInt8.ofNat (n / 2 ^ (8 * i) % 256)) = n % 2 ^ (8 * k) := by
  induction k with
  | zero => intro n; simp [leValue, Nat.mod_one]
  | succ k ih =>
    intro n
    have htail : ∀ i, n / 2 ^ (8 * (i + 1)) = n / 256 / 2 ^ (8 * i) := fun i => by
      rw [Nat.div_div_eq_div_mul, Nat.mul_add, Nat.pow_add, Nat.mul_comm]
    rw [List.range_succ_eq_map, List.map_cons, List.map_map, leValue]
    simp only [Function.comp_def, Nat.succ_eq_add_one, htail, ih]
    rw [Nat.mul_add, Nat.pow_add, Nat.mul_comm (2 ^ _), Nat.mod_mul (a := 256)]
    simp [UInt8.toNat_ofNat']

theorem leBytes_length (v : Word) : (leBytes v).length = 8 := by simp [leBytes]

theorem leValue_take_leBytes (v : Word) (size : Nat) (hs : size ≤ 8) :
    leValue ((leBytes v).take size) = v.toNat % 2 ^ (8 * size) := by
  rw [leBytes, ← List.map_take, List.take_range, Nat.min_eq_left hs, leValue_map_range]

/-- `will_capture_parameter` into a 1-, 2-, 4- or 8-byte variable stores exactly the argument's value
(its low `size` bytes): the number the variable then holds is the argument modulo `2^(8·size)`. -/
theorem C12_capture (m : Mem) (localAddr : Nat) (actual : Word) (size : Nat) (hs : size ≤ 8) :
    leValue (readBytes (captureLE m localAddr actual size) localAddr size) = actual.toNat % 2 ^ (8 * size)
    ∧ ∀ a, (a < localAddr ∨ localAddr + size ≤ a) → captureLE m localAddr actual size a = m a := by
  constructor
  · rw [captureLE, readBytes_writeBytes_take _ _ _ _ (by rw [leBytes_length]; exact hs), leValue_take_leBytes actual size hs]
  · exact fun a ha => writeBytes_of_not_mem _ _ _ _ (by rw [List.length_take]; omega)

/-- The big-endian branch of the C stores the same low bytes (most significant first). -/
theorem C12_capture_big_endian (actual : Word) (size : Nat) (hs : size ≤ 8) :
    ((beBytes actual).drop (8 - size)).reverse = (leBytes actual).take size := by
  simp only [beBytes]
  have h8 : (leBytes actual).length = 8 := leBytes_length actual
  rw [← h8, List.drop_reverse, List.reverse_reverse]
  congr 1; omega

example : leValue ((leBytes 0x1122334455667788#64).take 2) = 0x7788 := by decide

end Cgreen
