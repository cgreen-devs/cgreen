import CgreenModel.Model.Compare
/-!
# C05 — every constraint passes exactly when its documented relation holds
For all operand pairs: integers over the whole `intptr_t` range (as 64-bit words compared as signed),
all byte strings (with the explicit length guards the `int`/`unsigned int` intermediates of the C
impose), all byte blocks and sizes.
-/
namespace Cgreen
open Cmp

/-! ### Integers -/

theorem wantValue_eq (e a : Word) : wantValue e a = decide (a = e) :=
  Bool.beq_comm.trans (Bool.beq_eq_decide_eq a e)

theorem C05_equal (a e : Word) : IntC.isEqualTo.eval a e = decide (a = e) := wantValue_eq e a

theorem C05_not_equal (a e : Word) : IntC.isNotEqualTo.eval a e = !IntC.isEqualTo.eval a e := rfl

theorem C05_greater (a e : Word) : IntC.isGreaterThan.eval a e = decide (a.toInt > e.toInt) := rfl

theorem C05_less (a e : Word) : IntC.isLessThan.eval a e = decide (a.toInt < e.toInt) := rfl

theorem C05_null (a e : Word) : IntC.isNull.eval a e = decide (a = 0) ∧ IntC.isNonNull.eval a e = !decide (a = 0) :=
  ⟨wantValue_eq 0 a, congrArg not (wantValue_eq 0 a)⟩

theorem C05_truth (a e : Word) : IntC.isTrue.eval a e = !decide (a = 0) ∧ IntC.isFalse.eval a e = decide (a = 0) :=
  ⟨congrArg not (wantValue_eq 0 a), wantValue_eq 0 a⟩

theorem C05_legacy_int (a e : Word) :
    IntC.assertEqual.eval a e = decide (a = e) ∧ IntC.assertNotEqual.eval a e = !decide (a = e)
    ∧ IntC.assertTrue.eval a e = !decide (a = 0) ∧ IntC.assertFalse.eval a e = decide (a = 0) :=
  ⟨Bool.beq_eq_decide_eq a e, congrArg not (Bool.beq_eq_decide_eq a e), congrArg not (Bool.beq_eq_decide_eq a 0),
    (Bool.not_not _).trans (Bool.beq_eq_decide_eq a 0)⟩

/-- Trichotomy ties the three ordering/equality constraints together on the whole range. -/
theorem C05_trichotomy (a e : Word) :
    (IntC.isLessThan.eval a e || IntC.isEqualTo.eval a e || IntC.isGreaterThan.eval a e) = true := by
  rw [C05_less, C05_equal, C05_greater]
  simp only [Bool.or_eq_true, decide_eq_true_eq, ← BitVec.toInt_inj]
  omega

/-! ### Strings -/

theorem strstr_le (h n : CStr) (i : Nat) : strstr h n = some i → i ≤ h.length := by
  induction h generalizing i with
  | nil =>
    unfold strstr
    split
    · rintro ⟨⟩; exact Nat.zero_le _
    · nofun
  | cons c h ih =>
    unfold strstr
    split
    · rintro ⟨⟩; exact Nat.zero_le _
    · intro hi
      obtain ⟨j, hj, rfl⟩ := Option.map_eq_some_iff.1 hi
      exact Nat.succ_le_succ (ih j hj)

theorem strstr_zero_iff (h n : CStr) : strstr h n = some 0 ↔ n.isPrefixOf h = true := by
  cases h with
  | nil => cases n <;> simp [strstr, List.isPrefixOf]
  | cons c h => unfold strstr; split <;> simp [*]

theorem strstr_isSome_iff (h n : CStr) : (strstr h n).isSome = true ↔ n <:+: h := by
  induction h with
  | nil => cases n <;> simp [strstr]
  | cons c h ih =>
    rw [strstr, List.infix_cons_iff, ← List.isPrefixOf_iff_prefix, ← ih]
    split <;> simp [*]

/-- `strpos(h, n) == 0` says that `h` begins with `n` as long as the offset survives the `unsigned int`. -/
theorem strpos_eq_zero_iff (h n : CStr) (hlen : h.length < 2 ^ 32) : strpos h n = 0 ↔ n.isPrefixOf h = true := by
  rw [← strstr_zero_iff]
  unfold strpos
  cases hs : strstr h n with
  | none => simp [NOT_FOUND]
  | some i =>
    have := strstr_le h n i hs
    simp [toU32, Nat.mod_eq_of_lt (show i < 2 ^ 32 by omega)]

theorem C05_string_equal (a e : CStr) : StrC.isEqualToString.eval a e = decide (a = e) :=
  Bool.beq_comm.trans (Bool.beq_eq_decide_eq a e)

theorem C05_contains (a e : CStr) : StrC.containsString.eval a e = decide (e <:+: a) := by
  rw [Bool.eq_iff_iff, decide_eq_true_iff]
  exact strstr_isSome_iff a e

/-- `begins_with_string`: exactly "expected is a prefix of actual", for actual strings shorter than 4 GiB
(the offset goes through an `unsigned int`). -/
theorem C05_begins (a e : CStr) (hlen : a.length < 2 ^ 32) : StrC.beginsWithString.eval a e = e.isPrefixOf a := by
  rw [Bool.eq_iff_iff, ← strpos_eq_zero_iff a e hlen]
  exact beq_iff_eq

theorem toI32_eq_self {n : Int} (lo : -2 ^ 31 ≤ n) (hi : n < 2 ^ 31) : toI32 n = n := by
  unfold toI32; omega

/-- `ends_with_string`: exactly "expected is a suffix of actual", for strings shorter than 2 GiB (the
lengths go through `int`). -/
theorem C05_ends (a e : CStr) (ha : a.length < 2 ^ 31) (he : e.length < 2 ^ 31) :
    StrC.endsWithString.eval a e = e.isSuffixOf a := by
  have hstart : toI32 (toI32 a.length - toI32 e.length) = a.length - e.length := by
    rw [toI32_eq_self (n := a.length), toI32_eq_self (n := e.length), toI32_eq_self] <;> omega
  simp only [StrC.eval, wantEnd, hstart]
  rw [Bool.eq_iff_iff, List.isSuffixOf_iff_suffix]
  split
  next hlt => exact ⟨nofun, fun hs => absurd hs.length_le (by omega)⟩
  next => rw [Int.toNat_sub, strcmpEq, beq_iff_eq, List.suffix_iff_eq_drop, eq_comm]

/-- Every negated string form is the complement of its positive form. -/
theorem C05_string_negations (a e : CStr) :
    StrC.isNotEqualToString.eval a e = !StrC.isEqualToString.eval a e
    ∧ StrC.doesNotContainString.eval a e = !StrC.containsString.eval a e
    ∧ StrC.doesNotBeginWithString.eval a e = !StrC.beginsWithString.eval a e
    ∧ StrC.doesNotEndWithString.eval a e = !StrC.endsWithString.eval a e
    ∧ StrC.assertStringNotEqual.eval a e = !StrC.assertStringEqual.eval a e :=
  ⟨rfl, rfl, rfl, rfl, rfl⟩

theorem C05_legacy_string (a e : CStr) : StrC.assertStringEqual.eval a e = decide (a = e) :=
  Bool.beq_eq_decide_eq a e

/-! ### Memory -/

/-- `is_equal_to_contents_of`: byte-wise equality over the given size; a NULL actual fails both the
positive and the negated form (documented: "we can't inspect the contents of a NULL pointer"). -/
theorem C05_contents (e a : List UInt8) (n : Nat) :
    wantContents e (some a) n = decide (e.take n = a.take n)
    ∧ doNotWantContents e (some a) n = !wantContents e (some a) n
    ∧ wantContents e none n = false ∧ doNotWantContents e none n = false :=
  ⟨Bool.beq_eq_decide_eq _ _, rfl, rfl, rfl⟩

/-- A difference at any offset below the size is detected, one at or beyond it is not looked at. -/
theorem C05_contents_offset (p : List UInt8) (x y : UInt8) (t u : List UInt8) (n : Nat) (hxy : x ≠ y) :
    wantContents (p ++ x :: t) (some (p ++ y :: u)) n = decide (n ≤ p.length) := by
  rw [Bool.eq_iff_iff, decide_eq_true_iff, ← Nat.sub_eq_zero_iff_le]
  simp only [wantContents, memcmpEq, beq_iff_eq, List.take_append, List.append_cancel_left_eq]
  cases n - p.length <;> simp [hxy]

example : StrC.beginsWithString.eval [97, 98] [97, 98, 99] = false := by decide
example : StrC.endsWithString.eval [120, 97, 98, 99] [97, 98, 99] = true := by decide
example : IntC.isGreaterThan.eval 4294967296#64 0#64 = true := by decide +kernel
example : IntC.isLessThan.eval 2147483648#64 0#64 = false := by decide +kernel

end Cgreen
