import CgreenModel.Model.Params
/-!
# C16 — mock clauses bind to the argument with the same name, however it is written
-/
namespace Cgreen
open Params

/-- An identifier the preprocessor can hand over: non-empty, no comma, parenthesis or white space. -/
def GoodIdent (s : Str) : Prop := s ≠ [] ∧ ∀ c ∈ s, c ≠ ',' ∧ c ≠ '(' ∧ c ≠ ')' ∧ isSpace c = false

/-- A comma-free text joins the first piece of what follows it. -/
theorem splitCommas_append_of_not_mem {x r p : Str} {ps : List Str} (h : ',' ∉ x) (hr : splitCommas r = p :: ps) :
    splitCommas (x ++ r) = (x ++ p) :: ps := by
  induction x with
  | nil => exact hr
  | cons c x ih =>
    have hc : (c == ',') = false := beq_false_of_ne fun e => h (e ▸ List.mem_cons_self)
    simp only [List.cons_append, splitCommas, hc, ih (fun hm => h (List.mem_cons_of_mem _ hm))]
    rfl

theorem splitCommas_noComma (x : Str) (h : ',' ∉ x) : splitCommas x = [x] := by
  simpa using splitCommas_append_of_not_mem h (r := []) rfl

theorem splitCommas_append (x rest : Str) (h : ',' ∉ x) :
    splitCommas (x ++ ',' :: rest) = x :: splitCommas rest := by
  simpa using splitCommas_append_of_not_mem h (r := ',' :: rest) rfl

theorem length_splitCommas (s : Str) : (splitCommas s).length = (s.filter (· == ',')).length + 1 := by
  induction s with
  | nil => rfl
  | cons c s ih =>
    unfold splitCommas
    split
    next hc => simp [hc, ih]
    next hc =>
      split
      next he => simp [he] at ih
      next he => simpa [hc, he] using ih

theorem compactArg_noComma (a : Arg) (h : GoodIdent a.ident) : ',' ∉ compactArg a := by
  have hid : ',' ∉ a.ident := fun hm => (h.2 _ hm).1 rfl
  have hbox : ',' ∉ boxDouble := by decide +kernel
  unfold compactArg
  split
  · simp [hid, hbox]
  · exact hid

theorem compactArg_ne_nil (a : Arg) (h : GoodIdent a.ident) : compactArg a ≠ [] := by
  unfold compactArg
  split
  · simp
  · exact h.1

theorem compact_cons_cons (a b : Arg) (bs : List Arg) :
    compact (a :: b :: bs) = compactArg a ++ ',' :: compact (b :: bs) := by
  simp [compact]

theorem compact_ne_nil (a : Arg) (as : List Arg) (h : GoodIdent a.ident) : compact (a :: as) ≠ [] := by
  cases as with
  | nil => exact compactArg_ne_nil a h
  | cons b bs => simp [compact_cons_cons]

theorem split_compact (a : Arg) (as : List Arg) (h : ∀ b ∈ a :: as, GoodIdent b.ident) :
    splitCommas (compact (a :: as)) = (a :: as).map compactArg := by
  induction as generalizing a with
  | nil => exact splitCommas_noComma _ (compactArg_noComma a (h a List.mem_cons_self))
  | cons b bs ih =>
    obtain ⟨ha, has⟩ := List.forall_mem_cons.1 h
    rw [compact_cons_cons, splitCommas_append _ _ (compactArg_noComma a ha), ih b has]
    rfl

/-- `strip_function_from` leaves a plain identifier alone. -/
theorem stripFn_ident (fn s : Str) (h : '(' ∉ s) : stripFn fn s = s := by
  have : s[fn.length]? ≠ some '(' := fun he => h (List.mem_of_getElem? he)
  simp [stripFn, this]

theorem stripFn_call (fn s : Str) : stripFn fn (fn ++ ['('] ++ s ++ [')']) = s := by
  simp [stripFn, List.getLast?_cons]

theorem strip_compactArg (a : Arg) (h : GoodIdent a.ident) :
    stripFn ['d'] (stripFn boxDouble (compactArg a)) = a.ident := by
  have hnp : '(' ∉ a.ident := fun hm => (h.2 _ hm).2.1 rfl
  unfold compactArg
  split
  · rw [stripFn_call, stripFn_ident _ _ hnp]
  · rw [stripFn_ident _ _ hnp, stripFn_ident _ _ hnp]

theorem marker_compactArg (a : Arg) (h : GoodIdent a.ident) :
    (boxDouble ++ ['(']).isPrefixOf (compactArg a) = a.isDouble := by
  unfold compactArg
  cases a.isDouble
  · exact Bool.eq_false_iff.2 fun hp =>
      (h.2 '(' ((List.isPrefixOf_iff_prefix.1 hp).subset (by simp))).2.1 rfl
  · exact List.isPrefixOf_iff_prefix.2 ((List.prefix_append _ _).trans (List.prefix_append _ _))

/-- The tokenizer on any spelling of an argument list: `s` is a spelling of `args` when its non-blank
characters are exactly the argument list written without blanks — any amount of white space (blanks,
tabs, line breaks) anywhere, including inside `box_double( x )`. -/
theorem C16_tokens (args : List Arg) (h : ∀ a ∈ args, GoodIdent a.ident) (s : Str)
    (hs : removeSpaces s = compact args) :
    names s = args.map (·.ident) ∧ markers s = args.map (·.isDouble) := by
  have hsplit : (splitCommas (removeSpaces s)).filter (· ≠ []) = args.map compactArg := by
    rw [hs]
    cases args with
    | nil => rfl
    | cons a as =>
      rw [split_compact a as h, List.filter_eq_self]
      intro x hx
      obtain ⟨b, hb, rfl⟩ := List.mem_map.1 hx
      simpa using compactArg_ne_nil b (h b hb)
  -- with the compositions unfolded, matching the two lemmas used next does not unfold `stripFn`
  simp only [names, markers, hsplit, List.map_map, Function.comp_def]
  exact ⟨List.map_congr_left fun b hb => strip_compactArg b (h b hb),
    List.map_congr_left fun b hb => marker_compactArg b (h b hb)⟩

theorem filter_comma_removeSpaces (s : Str) : (removeSpaces s).filter (· == ',') = s.filter (· == ',') := by
  rw [removeSpaces, List.filter_filter]
  congr 1; funext c
  exact Bool.and_eq_left_iff_imp.2 fun hc => by rw [eq_of_beq hc]; rfl

/-- The number of actual arguments `mock_()` reads (`number_of_parameters_in`) is the number of names
the tokenizer produces: no actual is read that is not there. -/
theorem C16_count (args : List Arg) (h : ∀ a ∈ args, GoodIdent a.ident) (hne : args ≠ []) (s : Str)
    (hs : removeSpaces s = compact args) : paramCount s = (names s).length := by
  obtain ⟨a, as, rfl⟩ := List.exists_cons_of_ne_nil hne
  have hsne : s ≠ [] := by
    rintro rfl
    exact compact_ne_nil a as (h a List.mem_cons_self) hs.symm
  rw [paramCount, if_neg hsne, ← filter_comma_removeSpaces, hs, ← length_splitCommas, split_compact a as h,
    (C16_tokens _ h s hs).1, List.length_map, List.length_map]

/-- A clause for parameter `p` is applied to exactly the positions whose name is `p` … -/
theorem C16_bind_positions (ns : List Str) (p : Str) (i : Nat) :
    i ∈ boundPositions ns p ↔ ns[i]? = some p := by
  by_cases hi : i < ns.length
  · simp [boundPositions, hi]
  · simp [boundPositions, hi]

/-- … which, the names of a C function's parameters being distinct, is the one position of that name. -/
theorem C16_bind_unique (ns : List Str) (hnd : ns.Nodup) (p : Str) (i j : Nat)
    (hi : i ∈ boundPositions ns p) (hj : j ∈ boundPositions ns p) : i = j := by
  rw [C16_bind_positions] at hi hj
  obtain ⟨hi1, hi2⟩ := List.getElem?_eq_some_iff.mp hi
  obtain ⟨hj1, hj2⟩ := List.getElem?_eq_some_iff.mp hj
  exact (List.getElem_inj (h₀ := hi1) (h₁ := hj1) hnd).mp (hi2.trans hj2.symm)

/-- A name that does not occur in the argument list is recognised as such (`mock_()` then reports one
failure and returns before any actual is read), and is bound to no position. -/
theorem C16_absent (ns : List Str) (p : Str) (h : p ∉ ns) : nameKnown ns p = false ∧ boundPositions ns p = [] :=
  ⟨by simpa [nameKnown] using h,
    List.eq_nil_iff_forall_not_mem.2 fun i hi => h (List.mem_of_getElem? ((C16_bind_positions ns p i).1 hi))⟩

/-- Witness of finding F26: the tokenizer of the pinned commit split `box_double( d )` into three names. -/
theorem C16_F26_witness :
    namesOld "a, box_double( d )".toList = ["a".toList, "box_double(".toList, "d".toList, ")".toList]
    ∧ names "a, box_double( d )".toList = ["a".toList, "d".toList] := by
  -- to the kernel a literal is `String.ofList` of its characters; this spares it the UTF-8 decoder
  repeat rw [String.toList_ofList]
  decide +kernel

example : GoodIdent "next".toList := by
  rw [String.toList_ofList]; unfold GoodIdent; decide +kernel
example : removeSpaces "n ,\n box_double( next )".toList = compact [⟨"n".toList, false⟩, ⟨"next".toList, true⟩] := by
  repeat rw [String.toList_ofList]
  decide +kernel

end Cgreen
