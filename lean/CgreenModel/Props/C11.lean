import CgreenModel.Lemmas.Xml
import CgreenModel.Lemmas.Runner
import CgreenModel.Model.XmlBuf
/-!
# C11 — XML reports are well-formed and complete for every run
Three layers: (1) what goes between the quotes of an attribute (message, name, file text) is well formed
and decodes to the text, for every byte string; (2) the libxml2 reporter hands libxml2 only characters XML
allows, terminates, and is the identity on valid UTF-8 of allowed characters; (3) the `<testcase>` elements
of a run are a function of its result lines, one per executed test, with the children the property names.
That libxml2 and the C library write what they are given is trusted; that the C agrees with these
definitions is the correspondence check's.
-/
namespace Cgreen
open Xml

/-- Plain XML reporter: for every message the attribute value is well formed, and an XML parser's entity
decoding gives back the message (cut to the reporter's 999 byte buffer, an unaltered prefix), with the bytes
XML cannot carry spelled `\xNN`. -/
theorem C11_message (s : List Nat) :
    attrOk (attrOfMessage s) = true
    ∧ decode (attrOfMessage s) = translit (s.take MSGMAX)
    ∧ s.take MSGMAX <+: s :=
  ⟨attrOk_escape _, decode_escape _, List.take_prefix _ _⟩

/-- … and that spelling changes nothing in a text without such bytes; a message that fits is not cut. -/
theorem C11_message_exact (s : List Nat) (hf : ∀ b ∈ s, forbidden b = false) (hl : s.length ≤ MSGMAX) :
    decode (attrOfMessage s) = s := by
  rw [(C11_message s).2.1, List.take_of_length_le hl, translit_of_not_forbidden hf]

/-- Names (suite, test, class) and file texts go through the same escaping, uncut. -/
theorem C11_name (s : List Nat) : attrOk (escape s) = true ∧ decode (escape s) = translit s :=
  ⟨attrOk_escape s, decode_escape s⟩

/-- libxml2 reporter: whatever the bytes, every character handed to libxml2 is one XML allows … -/
theorem C11_libxml_allowed (s : List Nat) (h : ∀ b ∈ s, b < 256) : ∀ c ∈ escapeProp s, xmlChar c = true :=
  escapePropF_allowed _ s h

/-- … precisely: the bytes `xmlEscapePropValue()` returns are the UTF-8 encoding of those characters, so
libxml2 is always given well-formed UTF-8 … -/
theorem C11_libxml_utf8 (s : List Nat) (h : ∀ b ∈ s, b < 256) :
    escapePropBytes s = (escapeProp s).flatMap encodeUTF8 := escapePropBytesF_eq _ s h

/-- … the escaping loop ends (one iteration per remaining byte is always enough: no amount of further
iterations changes the result) … -/
theorem C11_libxml_terminates (s : List Nat) (fuel : Nat) (h : s.length ≤ fuel) : escapePropF fuel s = escapeProp s :=
  escapePropF_stable s.length s fuel (Nat.le_refl _) h

/-- … and valid UTF-8 of allowed characters arrives unchanged. -/
theorem C11_libxml_exact (cps : List Nat) (h : ∀ c ∈ cps, nonRestricted c = true) :
    escapeProp (cps.flatMap encodeUTF8) = cps :=
  escapePropF_encode cps _ h (Nat.le_refl _)

/-- The defect found on the way (F18), as a statement: on a valid encoding of a character XML does not
allow, the previous loop consumed no input (`advanceOld = 0`), so it never ended. -/
def advanceOld (s : List Nat) : Nat :=
  match getUTF8 s with
  | some (ucs, len) => if !overlong ucs len then (if nonRestricted ucs then len else 0) else len
  | none => 1
theorem C11_F18_witness : advanceOld [1, 65] = 0 ∧ escapeProp [1, 65] = [92, 120, 48, 49, 65] := by decide

/-- F39: libxml2's decoder alone takes a stray continuation byte for the start of a sequence (here: bytes
0x88 0x80 as the character 0x200), whose bytes are not the encoding of that character. -/
theorem C11_F39_witness : getUTF8 [0x88, 0x80] = some (0x200, 2) ∧ encodeUTF8 0x200 ≠ [0x88, 0x80]
    ∧ escapeProp [0x88, 0x80] = [92, 120, 56, 56, 92, 120, 56, 48] := by decide

/-! ## The document -/

/-- The testcase element of one test. -/
def Test.xcase (cap : Nat) (su td : Bool) (tp : List String) (t : Test) : XCase :=
  if t.xskip then ⟨tp, 0, 0, true⟩ else
  ⟨tp, (runCode cap [] su td t).fails, if t.abnormal cap su td then 1 else 0, t.finishSt cap su td == .skippedSt⟩

def casesTests (cap : Nat) (su td : Bool) (path : List String) : List Test → List XCase
  | [] => []
  | t :: ts => t.xcase cap su td (path ++ [t.name]) :: casesTests cap su td path ts

mutual
def Tree.cases (cap : Nat) (parent : List String) : Tree → List XCase
  | .node name su td subs tests => casesSubs cap (parent ++ [name]) subs ++ casesTests cap su td (parent ++ [name]) tests
def casesSubs (cap : Nat) (path : List String) : List Tree → List XCase
  | [] => []
  | c :: cs => c.cases cap path ++ casesSubs cap path cs
end

theorem xmlCases_test (cap : Nat) (su td : Bool) (tp : List String) (t : Test) (rest : List Out) :
    xmlCasesGo 0 0 (t.results cap su td tp ++ rest) = t.xcase cap su td tp :: xmlCasesGo 0 0 rest := by
  rw [Test.results_eq, Test.xcase]
  cases hf : t.abnormal cap su td
  · cases hx : t.xskip <;> simp [xmlCasesGo, Test.finishSt, hx]
  · simp [xmlCasesGo, Test.finishSt, Test.not_xskip_of_abnormal hf]

theorem xmlCases_tests (cap : Nat) (su td : Bool) (path : List String) (ts : List Test) (rest : List Out) :
    xmlCasesGo 0 0 (resultsTests cap su td path ts ++ rest) = casesTests cap su td path ts ++ xmlCasesGo 0 0 rest := by
  induction ts with
  | nil => simp [resultsTests, casesTests]
  | cons t ts ih => simp [resultsTests, casesTests, List.append_assoc, xmlCases_test, ih]

mutual
theorem xmlCases_tree (cap : Nat) : ∀ (t : Tree) (parent : List String) (rest : List Out),
    xmlCasesGo 0 0 (t.results cap parent ++ rest) = t.cases cap parent ++ xmlCasesGo 0 0 rest
  | .node name su td subs tests, parent, rest => by
    simp only [Tree.results, Tree.cases, List.append_assoc]
    rw [xmlCases_subs cap subs (parent ++ [name]), xmlCases_tests]
    simp [xmlCasesGo]
theorem xmlCases_subs (cap : Nat) : ∀ (cs : List Tree) (path : List String) (rest : List Out),
    xmlCasesGo 0 0 (resultsSubs cap path cs ++ rest) = casesSubs cap path cs ++ xmlCasesGo 0 0 rest
  | [], _, _ => by simp [resultsSubs, casesSubs]
  | c :: cs, path, rest => by
    simp only [resultsSubs, casesSubs, List.append_assoc]
    rw [xmlCases_tree cap c path, xmlCases_subs cap cs path]
end

/-- For every tree, capacity, execution mode and reporter: the testcase elements of the run are exactly one
per test, in execution order, each with the children `Test.xcase` says. -/
theorem C11_document (cap : Nat) (hcap : 0 < cap) (m : Mode) (r : Reporter) (t : Tree) (hok : t.AllOk cap m) :
    xmlCases ((run ⟨cap, m, r⟩ t).out.filter Out.isResult) = t.cases cap [] := by
  rw [(run_spec cap hcap m r t hok).2.2.2, xmlCases, xmlCases_tree]
  simp [xmlCasesGo]

/-- What `Test.xcase` says, in the property's words: a test that ran to completion shows its failed checks
as that many failure elements and no error; a test that ended abnormally shows exactly one error; a test
skipped by declaration shows `skipped` and nothing else. -/
theorem C11_case_completed (cap : Nat) (su td : Bool) (tp : List String) (t : Test) (hx : t.xskip = false)
    (hab : t.abnormal cap su td = false) :
    (t.xcase cap su td tp).errors = 0 ∧ (t.xcase cap su td tp).failures = (runCode cap [] su td t).fails := by
  simp [Test.xcase, hx, hab]

theorem C11_case_abnormal (cap : Nat) (su td : Bool) (tp : List String) (t : Test) (hab : t.abnormal cap su td = true) :
    (t.xcase cap su td tp).errors = 1 := by
  simp [Test.xcase, Test.not_xskip_of_abnormal hab, hab]

theorem C11_case_xskip (cap : Nat) (su td : Bool) (tp : List String) (t : Test) (hx : t.xskip = true) :
    t.xcase cap su td tp = ⟨tp, 0, 0, true⟩ := by simp [Test.xcase, hx]

/-- One testcase per test of a suite's own list; `Tree.cases` joins these lists in execution order. -/
theorem casesTests_length (cap : Nat) (su td : Bool) (path : List String) (ts : List Test) :
    (casesTests cap su td path ts).length = ts.length := by
  induction ts with
  | nil => rfl
  | cons t ts ih => simp [casesTests, ih]

example : xmlCases [.failLines ["s", "a"] 2, .testEnd ["s", "a"] ⟨0, 2, 0, 0⟩ .received, .failLines ["s", "b"] 1, .excLine ["s", "b"],
      .testEnd ["s", "b"] ⟨0, 1, 0, 1⟩ .notReceived, .testEnd ["s", "c"] ⟨0, 0, 1, 0⟩ .skippedSt, .suiteEnd ["s"] ⟨0, 3, 1, 1⟩]
    = [⟨["s", "a"], 2, 0, false⟩, ⟨["s", "b"], 1, 1, false⟩, ⟨["s", "c"], 0, 0, true⟩] := by decide

/-- `xml_escaped()`: a buffer of `k * strlen(text) + m` bytes holds the escaped text and its terminator, for every text,
whenever `k` is at least the longest replacement (6 bytes, `&quot;`) and `m` at least 1. The factor and the addend in the
source are re-read on every run (`translate/xmlsizes.py`) and checked against these two hypotheses. -/
theorem C11_escape_fits (s : List Nat) (k m : Nat) (hk : 6 ≤ k) (hm : 1 ≤ m) :
    (escape s).length + 1 ≤ k * s.length + m :=
  Nat.add_le_add (Nat.le_trans (escape_length_le s) (Nat.mul_le_mul_right _ hk)) hm

example : (escape [34, 34, 34]).length + 1 = 6 * 3 + 1 := by decide      -- the bound is attained: three double quotes

/-! ### How the plain XML reporter carries a test's elements to the suite's file (`Model/XmlBuf.lean`) -/
namespace XmlBuf

/-- Elements shown by one process while a test is open: the file receives exactly their texts, in order (what is new in
`output` after an element was added is that element), and nothing else the processes share changes. -/
theorem showAll_file (p : Proc) (sh : Shared) (f : Text) (es : List Text) (hf : sh.file = some f) :
    (showAll .length p sh es).2 = { sh with file := some (f ++ es.flatten) } := by
  induction es generalizing p sh f with
  | nil => simp [showAll, ← hf]
  | cons e es ih =>
    rw [showAll, showWith, hf]
    simp only [List.drop_left]
    rw [ih _ _ (f ++ e) rfl]
    simp

end XmlBuf
/-- **Each element once, in order, in every mode.** Whatever the test's process shows (any number of failure elements of any
texts) and whatever the reporting process adds afterwards (its skip mark, its error element), whatever the two processes'
`output` held before, finishing the test writes to the suite's file exactly those elements, each once, in that order - whether
the test ran in a process of its own (two `output`s, one shared file) or in the reporting process (one `output`). -/
theorem C11_buffer_each_once (forked : Bool) (p : XmlBuf.Proc) (sh : XmlBuf.Shared) (child parent : List XmlBuf.Text) :
    (XmlBuf.runTest forked .length p sh child parent).2.2 = (child ++ parent).flatten
    ∧ (XmlBuf.runTest forked .length p sh child parent).2.1 = { file := none, suite := sh.suite ++ (child ++ parent).flatten }
    ∧ (XmlBuf.runTest forked .length p sh child parent).1 = { output := none } := by
  have hc := XmlBuf.showAll_file { output := some [] } { sh with file := some [] } [] child rfl
  simp only [XmlBuf.runTest, XmlBuf.startTest, XmlBuf.finishTest]
  -- `showAll_file` asks nothing of the process that shows `parent`: this is where `forked` stops mattering
  rw [XmlBuf.showAll_file _ _ _ parent (by rw [hc]), hc]
  simp

/-- A check made outside any test (a suite's fixture run by the reporting process): its element goes to the suite's file at
once, exactly once, and nothing is kept - whatever `output` held. -/
theorem C11_buffer_outside_test (p : XmlBuf.Proc) (s e : XmlBuf.Text) :
    XmlBuf.showElem p { file := none, suite := s } e = ({ output := none }, { file := none, suite := s ++ e }) := by
  simp [XmlBuf.showElem, XmlBuf.showWith]

/-- Witness for the seeded changes C13-B12 / C17-A7 / C11-A10 (the skip mark appended from offset 0): harmless when the test
has a process of its own, a second copy of every failure element when it has not. -/
theorem C11_buffer_offset_zero_witness :
    (XmlBuf.runTest true .zero { output := none } { file := none, suite := [] } ["<f>".toList] ["<s>".toList]).2.2 = "<f><s>".toList
    ∧ (XmlBuf.runTest false .zero { output := none } { file := none, suite := [] } ["<f>".toList] ["<s>".toList]).2.2 = "<f><f><s>".toList := by
  -- the literals as lists of characters first: evaluating `String.toList` means running the UTF-8 decoder
  repeat rw [String.toList_ofList]
  decide

/-- Witness for the seeded change C11-B12 (print the reporting process's own `output` when there is any, read the file only
otherwise): the failure elements of a forked test that is then skipped or killed are lost. -/
theorem C11_buffer_prefer_output_witness :
    let (p1, sh1) := XmlBuf.startTest { output := none } { file := none, suite := [] }
    let (_, sh2) := XmlBuf.showAll .length p1 sh1 ["<f>".toList]
    let (p2, sh3) := XmlBuf.showAll .length p1 sh2 ["<e>".toList]
    (XmlBuf.finishTestPreferOutput p2 sh3).2.2 = "<e>".toList ∧ (XmlBuf.finishTest p2 sh3).2.2 = "<f><e>".toList := by
  repeat rw [String.toList_ofList]
  decide

example : (XmlBuf.runTest true .length { output := some "stale".toList } { file := none, suite := "<suite>".toList } ["<f1>".toList, "<f2>".toList] ["<error>".toList]).2.1.suite
    = "<suite><f1><f2><error>".toList := by
  repeat rw [String.toList_ofList]
  decide

end Cgreen
