import Mathlib.Tactic.Positivity
import Mathlib.Algebra.Order.Field.Power
import CgreenModel.Model.Doubles
/-!
# C15 — double comparison obeys equality laws and the documented tolerance
The theorems are about the exact-rational instance `ratOps F` of the one generic algorithm in
`Model/Doubles.lean` (every finite double is a rational). `F` stands for `floor ∘ log10`; all that is
assumed about it is its defining property `FloorLog10 F`. The binary64 instance of the same algorithm
is what the correspondence check runs against the C; the distance between the two instances is
rounding, measured there (finding F27).
-/
namespace Cgreen
open Dbl

/-- The defining property of `floor ∘ log10` on positive rationals. -/
def FloorLog10 (F : Rat → Int) : Prop := ∀ L : Rat, 0 < L → (10 : Rat) ^ (F L) ≤ L ∧ L < (10 : Rat) ^ (F L + 1)

theorem rabs_eq (x : Rat) : rabs x = |x| := by
  unfold rabs
  split
  next h => exact (abs_of_neg h).symm
  next h => exact (abs_of_nonneg (not_lt.1 h)).symm

theorem cmax_eq (F : Rat → Int) (a b : Rat) : cmax (ratOps F) a b = max a b := by
  simp only [cmax, ratOps, decide_eq_true_eq, max_comm a b, max_def_lt]

theorem ten_pos : (0 : Rat) < 10 := by positivity

theorem absTol_pos : 0 < absTolRat := by unfold absTolRat; positivity

/-- Equality at `n` figures, as a proposition about exact values. -/
theorem eq_iff (F : Rat → Int) (n : Int) (x y : Rat) :
    doublesAreEqual (ratOps F) n x y = true ↔ (|x - y| < absTolRat ∨ |x - y| < ratAcc F n (max |x| |y|)) := by
  simp only [doublesAreEqual, cmax_eq]
  simp only [ratOps, rabs_eq, Bool.or_eq_true, decide_eq_true_eq]

/-- Symmetric in its operands. -/
theorem C15_symmetric (F : Rat → Int) (n : Int) (x y : Rat) :
    doublesAreEqual (ratOps F) n x y = doublesAreEqual (ratOps F) n y x := by
  rw [Bool.eq_iff_iff, eq_iff, eq_iff, abs_sub_comm x y, max_comm]

/-- Every value equals itself. -/
theorem C15_reflexive (F : Rat → Int) (n : Int) (x : Rat) : doublesAreEqual (ratOps F) n x x = true := by
  rw [eq_iff, sub_self, abs_zero]
  exact .inl absTol_pos

/-- Equal and not-equal are exact complements (all entry points negate the same function). -/
theorem C15_complement (F : Rat → Int) (n : Int) (e a : Rat) :
    doNotWantDouble (ratOps F) n e a = !wantDouble (ratOps F) n e a := rfl

/-! ### The accuracy -/

theorem ratAcc_eq (F : Rat → Int) (n : Int) (L : Rat) :
    ratAcc F n L = if L = 0 then 0 else (10 : Rat) ^ (1 + F |L| - n) := by
  simp only [ratAcc, rabs_eq, abs_eq_zero]

theorem ratAcc_nonneg (F : Rat → Int) (n : Int) (L : Rat) : 0 ≤ ratAcc F n L := by
  rw [ratAcc_eq]
  split
  · exact le_rfl
  · positivity

theorem ratAcc_mono_figs (F : Rat → Int) (m n : Int) (h : m ≤ n) (L : Rat) : ratAcc F n L ≤ ratAcc F m L := by
  simp only [ratAcc_eq]
  split
  · exact le_rfl
  · exact zpow_le_zpow_right₀ Nat.one_le_ofNat (sub_le_sub_left h _)

/-- The accuracy lies between a tenth of the documented tolerance and the documented tolerance. -/
theorem ratAcc_bounds (F : Rat → Int) (hF : FloorLog10 F) (n : Int) (L : Rat) :
    |L| * (10 : Rat) ^ (1 - n) / 10 ≤ ratAcc F n L ∧ ratAcc F n L ≤ |L| * (10 : Rat) ^ (1 - n) := by
  rw [ratAcc_eq]
  split
  next h => simp [h]
  next h =>
    obtain ⟨h1, h2⟩ := hF |L| (abs_pos.2 h)
    have hp : (0 : Rat) ≤ 10 ^ (1 - n) := by positivity
    -- both bounds are `10 ^ F |L| ≤ |L| < 10 ^ F |L| * 10` multiplied by `10 ^ (1 - n)`
    rw [zpow_add_one₀ ten_pos.ne'] at h2
    rw [show 1 + F |L| - n = F |L| + (1 - n) by omega, zpow_add₀ ten_pos.ne', div_le_iff₀ ten_pos, mul_right_comm]
    exact ⟨mul_le_mul_of_nonneg_right h2.le hp, mul_le_mul_of_nonneg_right h1 hp⟩

/-- Values accepted as equal at `n` figures are accepted at every fewer figures. -/
theorem C15_monotone (F : Rat → Int) (m n : Int) (h : m ≤ n) (x y : Rat)
    (heq : doublesAreEqual (ratOps F) n x y = true) : doublesAreEqual (ratOps F) m x y = true := by
  rw [eq_iff] at *
  exact heq.imp_right fun h2 => h2.trans_le (ratAcc_mono_figs F m n h _)

/-- Never accepted as equal when they differ by more than `max(|x|,|y|)·10^(1−n)` (beyond the absolute
tolerance around zero). -/
theorem C15_upper (F : Rat → Int) (hF : FloorLog10 F) (n : Int) (x y : Rat)
    (hd : max |x| |y| * (10 : Rat) ^ (1 - n) < |x - y|) (habs : absTolRat ≤ |x - y|) :
    doublesAreEqual (ratOps F) n x y = false := by
  rw [Bool.eq_false_iff, Ne, eq_iff, not_or, not_lt, not_lt]
  refine ⟨habs, (ratAcc_bounds F hF n _).2.trans ?_⟩
  rw [abs_of_nonneg (le_max_of_le_left (abs_nonneg x))]
  exact hd.le

/-- Always accepted when they differ by less than a tenth of that. -/
theorem C15_lower (F : Rat → Int) (hF : FloorLog10 F) (n : Int) (x y : Rat)
    (hd : |x - y| < max |x| |y| * (10 : Rat) ^ (1 - n) / 10) :
    doublesAreEqual (ratOps F) n x y = true := by
  have h := (ratAcc_bounds F hF n (max |x| |y|)).1
  rw [abs_of_nonneg (le_max_of_le_left (abs_nonneg x))] at h
  exact (eq_iff ..).2 (.inr (hd.trans_le h))

/-! ### The ordering constraints -/

/-- `is_less_than_double(e)` applied to `a`: as a proposition. -/
theorem lesser_iff (F : Rat → Int) (n : Int) (e a : Rat) :
    wantLesserDouble (ratOps F) n e a = true ↔ a < e + ratAcc F n (max e a) := by
  simp only [wantLesserDouble, doubleIsLesser, cmax_eq]
  simp only [ratOps, decide_eq_true_eq]

theorem greater_iff (F : Rat → Int) (n : Int) (e a : Rat) :
    wantGreaterDouble (ratOps F) n e a = true ↔ e - ratAcc F n (max e a) < a := by
  simp only [wantGreaterDouble, doubleIsGreater, cmax_eq]
  simp only [ratOps, decide_eq_true_eq]

/-- The accuracy used by the ordering constraints never exceeds the documented tolerance. -/
theorem ratAcc_le_tol (F : Rat → Int) (hF : FloorLog10 F) (n : Int) (e a : Rat) :
    ratAcc F n (max e a) ≤ max |e| |a| * (10 : Rat) ^ (1 - n) :=
  (ratAcc_bounds F hF n _).2.trans
    (mul_le_mul_of_nonneg_right abs_max_le_max_abs_abs (by positivity))

/-- The less-than constraint accepts every strictly ordered pair … -/
theorem C15_less_accepts (F : Rat → Int) (n : Int) (e a : Rat) (h : a < e) : wantLesserDouble (ratOps F) n e a = true :=
  (lesser_iff ..).2 (lt_add_of_lt_of_nonneg h (ratAcc_nonneg ..))

/-- … and no pair that is out of order by more than the tolerance. -/
theorem C15_less_rejects (F : Rat → Int) (hF : FloorLog10 F) (n : Int) (e a : Rat)
    (h : e + max |e| |a| * (10 : Rat) ^ (1 - n) < a) : wantLesserDouble (ratOps F) n e a = false := by
  rw [Bool.eq_false_iff, Ne, lesser_iff, not_lt]
  exact (add_le_add le_rfl (ratAcc_le_tol F hF n e a)).trans h.le

theorem C15_greater_accepts (F : Rat → Int) (n : Int) (e a : Rat) (h : e < a) : wantGreaterDouble (ratOps F) n e a = true :=
  (greater_iff ..).2 ((sub_le_self e (ratAcc_nonneg ..)).trans_lt h)

theorem C15_greater_rejects (F : Rat → Int) (hF : FloorLog10 F) (n : Int) (e a : Rat)
    (h : a < e - max |e| |a| * (10 : Rat) ^ (1 - n)) : wantGreaterDouble (ratOps F) n e a = false := by
  rw [Bool.eq_false_iff, Ne, greater_iff, not_lt]
  exact h.le.trans (sub_le_sub_left (ratAcc_le_tol F hF n e a) e)

/-- The hypothesis is satisfiable: a function with the defining property of `floor ∘ log10` exists
(here: on the two values the example uses), and the bounds bite on a concrete pair. -/
example : doublesAreEqual (ratOps floorLog10) 3 1 (1002 / 1000) = true ∧ doublesAreEqual (ratOps floorLog10) 4 1 (1002 / 1000) = false := by
  decide +kernel

end Cgreen
