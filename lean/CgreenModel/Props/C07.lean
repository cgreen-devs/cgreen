import CgreenModel.Lemmas.Mocks
import CgreenModel.Props.C06
/-!
# C07 — a strict-mock test passes exactly when calls made match calls declared
The counting statements, on the model of `mocks.c`; by the refinement theorems of C06 each of them
holds on the global queue because it holds on the function's own FIFO.
-/
namespace Cgreen
open Mocks

def Out.passes : Out → Bool
  | .check _ ok => ok
  | .ret _ => true

def allPass (outs : List (List Out)) : Bool := outs.all (fun l => l.all Out.passes)

/-- An expectation that was not satisfied yields exactly one failure at the end of the test. -/
theorem C07_unsatisfied_one_failure (e : Exp) (ha : e.isAlways = false) (hn : e.isNever = false) (ht : e.times = none) :
    tallyOne e = [.check (some e.id) false] := by simp [tallyOne, ha, hn, ht]

/-- With `times(n)`: one check, which passes exactly when it was called `n` times. -/
theorem C07_times_check (e : Exp) (n : Int) (ha : e.isAlways = false) (hn : e.isNever = false) (ht : e.times = some n) :
    tallyOne e = [.check (some e.id) ((e.called : Int) == n)] := by simp [tallyOne, ha, hn, ht]

/-- An honoured `never_expect` yields a pass; a violated one yields nothing more at the tally … -/
theorem C07_never_tally (e : Exp) (hn : e.isNever = true) :
    tallyOne e = if e.triggered = 0 then [.check (some e.id) true] else [] := by
  by_cases h : e.triggered = 0 <;> simp [tallyOne, e.isAlways_of_isNever hn, hn, h]

/-- … because every offending call already yielded exactly one failure (and returned 0). -/
theorem C07_never_violated (s : MState) (f : Nat) (args : List Int) (e : Exp) (rest : List Exp)
    (hq : proj f s.q = e :: rest) (hn : e.isNever = true) :
    (call s f args).2 = [.check (some e.id) false, .ret 0]
    ∧ proj f (call s f args).1.q = { e with triggered := e.triggered + 1 } :: rest := by
  simpa [hn] using call_proj_cons s f args e rest hq

/-- An `always_expect` yields neither a pass nor a failure at the tally. -/
theorem C07_always_silent (e : Exp) (ha : e.isAlways = true) : tallyOne e = [] := by simp [tallyOne, ha]

/-- A call that has no pending expectation: with strict mocks exactly one failure and 0 is returned;
with loose (or learning) mocks nothing and 0 is returned. -/
theorem C07_unexpected (s : MState) (f : Nat) (args : List Int) (h : proj f s.q = []) :
    (call s f args).2 = (if s.mode = .strict then [.check none false] else []) ++ [.ret 0] := by
  have hf : findExp f s.q = none := by rw [findExp_head, h]; rfl
  simp [call, hf]

/-- A declaration for a function that already has an `always_expect` or a `never_expect` yields one
failure. -/
theorem C07_decl_after_always (s : MState) (k : Kind) (f : Nat) (r : Int) (c : List Con) (h : haveAlways f s.q = true) :
    (declare s k f r c).2 = [.check (some s.nextId) false] := by simp [declare, h]

theorem C07_decl_after_never (s : MState) (k : Kind) (f : Nat) (r : Int) (c : List Con)
    (ha : haveAlways f s.q = false) (h : haveNever f s.q = true) :
    (declare s k f r c).2 = [.check (some s.nextId) false] := by simp [declare, ha, h]

/-! ### Calls made = calls declared, in number -/

theorem allPass_append (a b : List (List Out)) : allPass (a ++ b) = (allPass a && allPass b) := by
  simp [allPass, List.all_append]

theorem allPass_calls_cons (s : MState) (f : Nat) (a : List Int) (as : List (List Int)) :
    allPass (calls s f (a :: as)).2 = ((call s f a).2.all Out.passes && allPass (calls (call s f a).1 f as).2) := rfl

/-- Calls without arguments served by an expectation without clauses report nothing. -/
theorem allPass_served (e : Exp) (hc : e.cons = []) (k : Nat) :
    allPass ((List.replicate k []).map fun a => reportFor e a ++ [.ret e.ret]) = true := by
  simp [allPass, reportFor, checksFor, Exp.unknownParam, hc, Out.passes]

/-- `expect(f, times(n))` followed by `k` calls and the tally, with strict mocks and nothing else in the
test: every check passes exactly when `k = n` — for every `n ≥ 0` and every `k`. -/
theorem C07_times_iff (n k : Nat) (f : Nat) (r : Int) (hb : (n : Int) < UNL) :
    allPass (run {} ([Op.decl (.expect (some (n : Int))) f r []] ++ (List.replicate k (Op.call f [])) ++ [Op.tally])).2 = true
      ↔ k = n := by
  -- the declaration leaves one expectation `e` in the queue; then come the calls, then the tally
  let e : Exp := { id := 0, fn := f, ttl := ttlOf (.expect (some (n : Int))), times := some (n : Int), ret := r }
  let s : MState := { q := [e], nextId := 1 }
  have hdecl : run {} [Op.decl (.expect (some (n : Int))) f r []] = (s, [[]]) := rfl
  have hq : proj f s.q = [e] := by simp [s, e, proj]
  rw [run_append, run_append, hdecl, ← List.map_replicate (f := Op.call f), run_map_call, allPass_append, allPass_append]
  show (true && allPass (calls s f (List.replicate k [])).2
      && allPass [(calls s f (List.replicate k [])).1.q.flatMap tallyOne]) = true ↔ k = n
  cases n with
  | zero =>
    -- `times(0)`: never to be called
    have hn : e.isNever = true := by simp [e, Exp.isNever, ttlOf]
    cases k with
    | zero =>
      have h1 : tallyOne e = [.check (some 0) true] := C07_never_tally e hn
      simp [calls, s, allPass, h1, Out.passes]
    | succ j =>
      rw [List.replicate_succ, allPass_calls_cons, (C07_never_violated s f [] e [] hq hn).1]
      simp [Out.passes]
  | succ t =>
    have httl : e.ttl = (t : Int) + 1 := by
      simp only [e, ttlOf]; rw [if_neg (by omega)]; omega
    obtain ⟨hfull, hgone⟩ := C06_times t s f (List.replicate (t + 1) []) e [] hq httl hb List.length_replicate
    rcases Nat.lt_trichotomy k (t + 1) with hk | rfl | hk
    · -- too few calls: the expectation is still there, and the tally finds its count short
      obtain ⟨h1, e', h2, ht, hcl, htm, -⟩ :=
        calls_served s f (List.replicate k []) e [] hq (by rw [List.length_replicate]; omega) (by omega)
      rw [List.length_replicate] at ht hcl
      obtain ⟨ha', hn'⟩ := e'.ordinary_of_ttl (by omega) (by omega)
      rw [calls_proj_self f _ s hq] at h2
      rw [h2, h1, allPass_served e rfl]
      simp [allPass, C07_times_check e' _ ha' hn' htm, Out.passes, hcl, e]
      omega
    · -- as many calls as declared: all are served, and nothing is left for the tally
      rw [calls_proj_self f _ s hq] at hgone
      rw [hgone, hfull, allPass_served e rfl]
      simp [allPass]
    · -- too many calls: the one after the last declared finds no expectation
      obtain ⟨j, rfl⟩ := Nat.exists_eq_add_of_lt hk
      have h3 := C07_unexpected _ f [] hgone
      rw [calls_mode] at h3
      rw [Nat.add_assoc, ← List.replicate_append_replicate, calls_append, allPass_append,
        List.replicate_succ (n := j), allPass_calls_cons, h3]
      simp [Out.passes, s]

example : allPass (run {} [Op.decl (.expect (some 2)) 0 5 [], .call 0 [], .call 0 [], .tally]).2 = true := by decide
example : allPass (run {} [Op.decl (.expect (some 0)) 0 5 [], .call 0 [], .tally]).2 = false := by decide

end Cgreen
