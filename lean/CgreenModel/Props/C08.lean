import CgreenModel.Lemmas.Runner
/-!
# C08 — setup, body, teardown and mock tally run once each, in order, in one process
The event log of the model (`Proc.trace`, `Out.ev`) is what the scripted fixtures and bodies of the
correspondence harness write; here its shape is proved for every test, fixture combination, outcome
and death point.
-/
namespace Cgreen

/-- The phases of a test in the order `run_the_test_code` goes through them: the applicable setup (the
suite's if it has one, otherwise the context's), the body, the applicable teardown (same rule, applied
independently), the mock tally. -/
def phasesOf (su td : Bool) (t : Test) : List Phase :=
  (if su then [Phase.suiteSetup] else if t.ctx.isSome then [Phase.ctxSetup] else [])
  ++ [Phase.body]
  ++ (if td then [Phase.suiteTeardown] else if t.ctx.isSome then [Phase.ctxTeardown] else [])
  ++ [Phase.tally]

def evPhases (ss : List Step) : List Phase := ss.filterMap (fun s => match s with | .ev p => some p | _ => none)

theorem evPhases_append (a b : List Step) : evPhases (a ++ b) = evPhases a ++ evPhases b := by
  simp [evPhases, List.filterMap_append]

@[simp] theorem evPhases_nil : evPhases [] = [] := rfl
@[simp] theorem evPhases_ev (p : Phase) (l : List Step) : evPhases (Step.ev p :: l) = p :: evPhases l := by
  simp [evPhases]
@[simp] theorem evPhases_act (a : Act) (l : List Step) : evPhases (Step.act a :: l) = evPhases l := by
  simp [evPhases]
@[simp] theorem evPhases_tallyNow (l : List Step) : evPhases (Step.tallyNow :: l) = evPhases l := by
  simp [evPhases]

@[simp] theorem evPhases_acts (l : List Act) : evPhases (l.map Step.act) = [] := by
  induction l with
  | nil => rfl
  | cons a l ih => simpa using ih

theorem evPhases_script (su td : Bool) (t : Test) : evPhases (script su td t) = phasesOf su td t := by
  unfold script phasesOf
  cases su <;> cases td <;> cases hc : t.ctx with
  | none => simp [evPhases_append]
  | some c => obtain ⟨a, b⟩ := c; simp [evPhases_append]

theorem evPhases_scriptOf (su td : Bool) (t : Test) : evPhases (scriptOf su td t) = phasesOf su td t := by
  unfold scriptOf
  split
  · rw [evPhases_append, evPhases_act, ← evPhases_append, List.take_append_drop, evPhases_script]
  · exact evPhases_script su td t

theorem send_trace (cap : Nat) (pr : Proc) (r : Rec) : (pr.send cap r).trace = pr.trace := by
  obtain ⟨d, e | e⟩ := pr.send_eq cap r <;> rw [e]

theorem check_trace (cap : Nat) (pr : Proc) (ok : Bool) : (pr.check cap ok).trace = pr.trace := by
  unfold Proc.check; split
  · rfl
  · rw [send_trace]

theorem checks_trace (cap : Nat) (pr : Proc) (l : List Bool) : (pr.checks cap l).trace = pr.trace := by
  induction l generalizing pr with
  | nil => rfl
  | cons b l ih => simp [Proc.checks, ih, check_trace]

/-- A live process logs the event of the step it makes, and nothing else. -/
theorem step_trace (cap : Nat) (pr : Proc) (s : Step) (hd : pr.dead.isSome = false) :
    (pr.step cap s).trace = pr.trace ++ evPhases [s] := by
  match s with
  | .ev _ | .act (.decl _) | .act (.die _) => simp [Proc.step, hd]
  | .tallyNow => simp [Proc.step, checks_trace]
  | .act (.check _) => simp [Proc.step, check_trace]
  | .act .skip => simp [Proc.step, send_trace]

/-- The events a process logs while it runs a list of steps: always a prefix of the events the steps
contain, in order, each at most once; all of them when the process is still alive at the end. -/
theorem steps_trace (cap : Nat) (ss : List Step) (pr : Proc) :
    ∃ l, (pr.steps cap ss).trace = pr.trace ++ l ∧ l <+: evPhases ss
         ∧ ((pr.steps cap ss).dead = none → l = evPhases ss) := by
  induction ss generalizing pr with
  | nil => exact ⟨[], by simp [Proc.steps], by simp, by simp⟩
  | cons s ss ih =>
    by_cases hd : pr.dead.isSome = true
    · rw [steps_dead cap _ pr hd]
      exact ⟨[], by simp, List.nil_prefix, fun h => by simp [h] at hd⟩
    · obtain ⟨l, h1, h2, h3⟩ := ih (pr.step cap s)
      rw [step_trace cap pr s (by simpa using hd), List.append_assoc] at h1
      exact ⟨evPhases [s] ++ l, h1, evPhases_append [s] ss ▸ (List.prefix_append_right_inj _).mpr h2,
        fun h => by rw [h3 h]; exact (evPhases_append [s] ss).symm⟩

theorem sendCompletion_trace (cap : Nat) (pr : Proc) (b : Bool) : (pr.sendCompletion cap b).trace = pr.trace := by
  obtain ⟨d, e⟩ | ⟨_, l, e, _⟩ := pr.sendCompletion_eq cap b <;> rw [e]

theorem sendCompletion_dead (cap : Nat) (pr : Proc) (b : Bool) (h : (pr.sendCompletion cap b).dead = none) : pr.dead = none := by
  obtain ⟨d, e⟩ | ⟨hd, _⟩ := pr.sendCompletion_eq cap b
  · rw [e] at h; cases h
  · exact hd

/-- The event log of a test's process: a prefix of the phases of `run_the_test_code`, all of them if the process lives. -/
theorem runCode_trace (cap : Nat) (pipe : List Rec) (su td : Bool) (t : Test) :
    (runCode cap pipe su td t).trace <+: phasesOf su td t
    ∧ ((runCode cap pipe su td t).dead = none → (runCode cap pipe su td t).trace = phasesOf su td t) := by
  unfold runCode
  rw [sendCompletion_trace]
  obtain ⟨l, h1, h2, h3⟩ := steps_trace cap (scriptOf su td t)
    ({ pipe := pipe, killWrite := (planOf t).atWrite, how := (planOf t).how } : Proc)
  rw [h1, List.nil_append, evPhases_scriptOf] at *
  exact ⟨h2, fun h => h3 (sendCompletion_dead cap _ _ h)⟩

/-- Around every executed test the phases run in the documented order, each at most once, and nothing
after the point of death: the event log is a prefix of `phasesOf` — for every death point, every way
of dying, every fixture combination. -/
theorem C08_order (cap : Nat) (pipe : List Rec) (su td : Bool) (t : Test) :
    (runCode cap pipe su td t).trace <+: phasesOf su td t := (runCode_trace cap pipe su td t).1

/-- A test that does not end early runs all of them: setup exactly once before the body, the
matching teardown exactly once after it — also when assertions fail — then the tally. -/
theorem C08_complete (cap : Nat) (pipe : List Rec) (su td : Bool) (t : Test)
    (h : (runCode cap pipe su td t).dead = none) :
    (runCode cap pipe su td t).trace = phasesOf su td t := (runCode_trace cap pipe su td t).2 h

/-- All events of one test are logged by one process: the forked child (a fresh process id) or, in
in-process execution, the runner itself (id 0); a skipped (xEnsure) test logs nothing. -/
theorem C08_one_process (cfg : Cfg) (su td : Bool) (path : List String) (s : St) (t : Test) (hh : s.halted = none) :
    ∃ o, (runTest cfg su td path s t).out = s.out ++ o ∧
      ∀ n p ph, Out.ev n p ph ∈ o →
        t.xskip = false ∧ p = path ++ [t.name] ∧ n = (match cfg.mode with | .fork => s.nproc + 1 | .inproc => 0) := by
  have hi : s.halted.isSome = false := by simp [hh]
  unfold runTest
  simp only [hi, Bool.false_eq_true, if_false]
  have hev : ∀ k n p ph, Out.ev n p ph ∈ evs k (path ++ [t.name]) (runCode cfg.cap s.pipe su td t).trace →
      p = path ++ [t.name] ∧ n = k := by
    simp only [evs, List.mem_map]
    rintro k n p ph ⟨_, _, ⟨⟩⟩
    exact ⟨rfl, rfl⟩
  -- in every case the output is `s.out` followed by the lines that make up `o`; among them only `evs …` holds events
  cases hx : t.xskip with
  | true =>
    simp only [if_true]
    split
    · exact ⟨_, rfl, by simp⟩
    · exact ⟨_, List.append_assoc _ _ _, by simp⟩
  | false =>
    simp only [Bool.false_eq_true, if_false]
    cases cfg.mode with
    | fork => exact ⟨_, (List.append_assoc _ _ _).trans (List.append_assoc _ _ _), by simpa using hev _⟩
    | inproc =>
      simp only []
      split
      · exact ⟨_, List.append_assoc _ _ _, by simpa using hev _⟩
      · exact ⟨_, (List.append_assoc _ _ _).trans (List.append_assoc _ _ _), by simpa using hev _⟩

/-- A suite's setup and teardown bracket each of its sub-suites exactly once, in the process that owns
the verdict: the events of `runSubs` for one sub-suite are setup (if any), the sub-suite's own output,
teardown (if any). -/
theorem C08_brackets (cfg : Cfg) (path : List String) (su td : Bool) (s : St) (c : Tree) (cs : List Tree)
    (hh : s.halted = none)
    (hsub : (runSuite cfg path { s with out := s.out ++ (if su then [Out.ev 0 path .suiteSetup] else []) } c).halted = none) :
    runSubs cfg path su td s (c :: cs)
      = runSubs cfg path su td
          { (runSuite cfg path { s with out := s.out ++ (if su then [Out.ev 0 path .suiteSetup] else []) } c) with
            out := (runSuite cfg path { s with out := s.out ++ (if su then [Out.ev 0 path .suiteSetup] else []) } c).out
                    ++ (if td then [Out.ev 0 path .suiteTeardown] else []) } cs := by
  have hi : s.halted.isSome = false := by simp [hh]
  have hi2 : (runSuite cfg path { s with out := s.out ++ (if su then [Out.ev 0 path .suiteSetup] else []) } c).halted.isSome = false := by
    simp [hsub]
  simp only [runSubs, hi, Bool.false_eq_true, if_false, hi2]

example : phasesOf false true { name := "t", ctx := some ([], []) } = [.ctxSetup, .body, .suiteTeardown, .tally] := by decide
example : (runCode 4096 [] false false { name := "t", ctx := some ([.check true], []), body := [.check false, .die (.signal 11)] }).trace
    = [.ctxSetup, .body] := by decide

end Cgreen
