import CgreenModel.Lemmas.Faults
import CgreenModel.Lemmas.Link
/-!
# C19 — resource failures never turn into a passing verdict
The part of the property that is logic — what the reporting process concludes from a result channel on
which one `read()` fails, or from a sender that dies at a failing `write()` — is proved here for every
sequence of phases, every group of records and every position of the fault. What is the operating system's
(that a failing `fork()`, `pipe()` or `fcntl()` is reported to the caller, that `exit(EXIT_FAILURE)` ends
the process with that status, that SIGPIPE kills) is exercised by the fault-injection check, not modelled.
-/
namespace Cgreen
open Faults

/-- One failing `read()` anywhere in the run (`k` ranges over every read of the run, `none` = no fault):
whatever the sequence of senders and readers, every failure or exception record that was sent has been
counted when the outermost suite is finished; none is lost or left in the channel. -/
theorem C19_read_fault (k : Option Nat) (phases : List Leg) (hok : ∀ ph ∈ phases, PhaseOk ph) :
    sentBad phases ≤ bad (runPhases k (phases ++ [top])).cnt := by
  have hinv := inv_run k phases {} (inv_empty _) hok
  have hc := conserve_run k phases {}
  have hs := conserve_step k (phases.foldl (phaseStep k) {}) top
  have hf := final_pipe k _ hinv
  -- for `omega`: the run starts with nothing counted or sent, and the last leg sends no result
  have h0 : bad ({} : RSt).cnt + nbad ({} : RSt).pipe = 0 := rfl
  have htop : nbad top.group = 0 := rfl
  simp only [runPhases, List.foldl_append, List.foldl_cons, List.foldl_nil]
  omega

/-- Hence a run in which some test delivered a failure does not report success, wherever the read fails. -/
theorem C19_read_fault_verdict (k : Option Nat) (phases : List Leg) (hok : ∀ ph ∈ phases, PhaseOk ph)
    (hbad : 0 < sentBad phases) : success (runPhases k (phases ++ [top])) = false :=
  success_eq_false_of_bad _ (Nat.lt_of_lt_of_le hbad (C19_read_fault k phases hok))

/-- A reader of a test that finds no completion notice — the failing read hit it, or the sender died at a
failing `write()` (its process is killed by SIGPIPE) — counts an exception, unless the test had announced
that it skips (known finding F02). -/
theorem C19_unobtained_is_exception (k : Option Nat) (s : RSt) (ph : Leg) (ht : ph.isTest = true)
    (h : (readLoop k s.reads false s.cnt (s.pipe ++ ph.group)).2.2.2 = .notReceived) :
    (phaseStep k s ph).cnt.e = (readLoop k s.reads false s.cnt (s.pipe ++ ph.group)).2.1.e + 1 := by
  simp [phaseStep, excOf, bump, ht, h]

/-- A sender that dies at its `j`-th write: the records before it arrive, no completion notice does. With an
empty channel and no skip announcement among them, the test is an exception. -/
theorem C19_write_fault (s : RSt) (recs : List Rec) (j : Nat) (hp : s.pipe = []) (hc : Rec.completion ∉ recs)
    (hs : Rec.skipped ∉ recs.take j) :
    (phaseStep none s { recs := recs.take j, complete := false, signalled := true }).cnt.e
      = (readLoop none s.reads false s.cnt (recs.take j)).2.1.e + 1 := by
  have hc' : Rec.completion ∉ recs.take j := fun h => hc (List.mem_of_mem_take h)
  -- without a failing read the reader is the runner model's, which passes over such a block and finds the channel empty
  have hst : (readLoop none s.reads false s.cnt (recs.take j)).2.2.2 = .notReceived := by
    rw [(readLoop_none_eq _ _ _ _).2.2, ← List.append_nil (recs.take j), readResults_append _ _ _ _ hc']
    simp [readResults, hs, Finish.toStatus]
  simp [phaseStep, Leg.group, hp, excOf, bump, hst]

/-- F29, as a statement about the previous `send_cgreen_message()`: dropping one record (the allocation
that failed) can turn a failing run into a passing one — and does so exactly when that record was the only
failure. -/
theorem C19_F29_witness :
    let phases : List Leg := [{ recs := [.pass, .fail] }]
    0 < sentBad phases
    ∧ success (runPhases none (dropNth 1 phases ++ [top])) = true
    ∧ success (runPhases none (phases ++ [top])) = false := by decide

/-- The premises are satisfiable and the conclusion is about something: a read that fails in the middle of a
failing test's results leaves them in the channel, and the next readers pick them up. -/
example : (runPhases (some 1) ([{ recs := [.pass, .fail] }, { recs := [.pass] }] ++ [top])).cnt = ⟨2, 1, 0, 1⟩ := by decide
example : (runPhases (some 1) ([{ recs := [.pass, .fail] }, { recs := [.pass] }] ++ [top])).pipe = [.completion] := by decide
example : (runPhases none ([{ recs := [.pass, .fail] }, { recs := [.pass] }] ++ [top])).cnt = ⟨2, 1, 0, 0⟩ := by decide

/-- The channel model (C19, and the outside-bracket statements of C01) is an abstraction of the runner model: for every
tree, capacity and reporter, the legs of the tree fed to the channel model give the totals the runner model's forked run
ends with, and leave the channel empty. -/
theorem C19_channel_model_abstracts_the_runner (cap : Nat) (hcap : 0 < cap) (r : Reporter) (t : Tree) (hok : t.AllOk cap .fork) :
    (runPhases none (t.legs cap)).cnt = (run ⟨cap, .fork, r⟩ t).tot ∧ (runPhases none (t.legs cap)).pipe = [] := by
  obtain ⟨h1, h2⟩ := foldl_tree cap t {} rfl hok
  exact ⟨(h1.trans (Cnt.zero_add _)).trans (run_spec cap hcap .fork r t hok).2.2.1.symm, h2⟩

end Cgreen
