import CgreenModel.Model.Timeout
import CgreenModel.Props.C02
/-!
# C14 — a per-test time limit stops the test and fails the run in every mode
An overrunning test is a test whose process ends through `Death.overrun` (the alarm handler ends the
process). That the alarm fires after n seconds, not earlier or later, is the kernel's and is assumed.
-/
namespace Cgreen
open Tmo

/-- Forked: the overrunning test is one exception … -/
theorem C14_forked_exception (cap : Nat) (su td : Bool) (x : Test) (hab : x.abnormal cap su td = true) :
    (x.truth cap su td).e = 1 := C02_one_exception cap su td x hab

/-- … the verdict is failure, wherever the test is, and every other test is unaffected (C02). -/
theorem C14_forked_verdict (cap : Nat) (hcap : 0 < cap) (r : Reporter) (t : Tree) (hok : t.AllOk cap .fork)
    (x : Bool × Bool × Test) (hmem : x ∈ t.allTests) (hab : x.2.2.abnormal cap x.1 x.2.1 = true) :
    verdict (run ⟨cap, .fork, r⟩ t) = some 1 := C02_verdict cap hcap t hok x hmem hab

/-- In-process (CGREEN_NO_FORK, single test): the run ends when the limit expires, and never in a way
that says "success". -/
theorem C14_inproc (s : St) (h : s.halted = some .overrun) : s.procEnd.success = false := C01_killed s _ h (by decide)

/-- A test that overruns does end abnormally in the model (non-vacuity of the hypotheses above). -/
example : ({ name := "slow", body := [.check false, .die .overrun, .check true] } : Test).abnormal 4096 false false = true := by decide
example : (run ⟨4096, .inproc, .text⟩ (.node "top" false false [] [{ name := "slow", body := [.check false, .die .overrun] }])).procEnd = .exited 1 := by decide

/-- The variable's value: accepted exactly when it is a non-empty string of decimal digits denoting a
number from 1 to INT_MAX. -/
theorem C14_env (s : List Char) (n : Nat) :
    parseTimeout s = some n ↔ (s ≠ [] ∧ digitsValue s = some n ∧ 0 < n ∧ n ≤ INT_MAX) := by
  unfold parseTimeout
  cases s with
  | nil => simp
  | cons c s =>
    cases digitsValue (c :: s) with
    | none => simp
    | some m =>
      simp only [List.isEmpty_cons, Bool.false_eq_true, if_false, Option.ite_none_right_eq_some,
        Option.some.injEq, ne_eq, reduceCtorEq, not_false_eq_true, true_and]
      rw [and_comm]
      exact and_congr_right fun e => by rw [e]

/-- The classes the property names. -/
theorem C14_env_classes :
    parseTimeout "".toList = none ∧ parseTimeout "0".toList = none ∧ parseTimeout "-5".toList = none
    ∧ parseTimeout "abc".toList = none ∧ parseTimeout "5abc".toList = none ∧ parseTimeout " 7".toList = none
    ∧ parseTimeout "2147483648".toList = none ∧ parseTimeout "60".toList = some 60 := by
  -- to the kernel a literal is `String.ofList` of its characters; this spares it the UTF-8 decoder
  repeat rw [String.toList_ofList]
  decide +kernel

end Cgreen
