import CgreenModel.Model.PerTest
import CgreenModel.Props.C11
/-!
# C13 — forked, in-process and single-test execution give the same results
For tests that complete normally. (1) The framework's own per-test state is reset by the prologue of
`run_the_test_code`, so a test that shares a process with earlier tests reports what it reports in a
process of its own (`Model/PerTest.lean`). The test program's own memory is not the framework's to
reset: the theorem is stated for tests that do not depend on it. (2) Result delivery is the same in
both modes (`Model/Runner.lean`).
-/
namespace Cgreen
open PerTest

/-- The prologue makes the framework state fresh: it forgets everything earlier tests did to it. -/
theorem reset_is_fresh (fw : Fw) : resetPerTest fw = { ({} : Fw) with glob := fw.glob } := rfl

/-- Does the test read the program's global? (A test that does not reports the same from any starting state:
`runActs_glob_irrelevant`.) -/
def usesGlobal : List FAct → Bool
  | [] => false
  | .readGlobal :: _ => true
  | _ :: as => usesGlobal as

theorem usesGlobal_cons {x : FAct} {as : List FAct} :
    usesGlobal (x :: as) = false ↔ x ≠ .readGlobal ∧ usesGlobal as = false := by
  cases x <;> simp [usesGlobal]

/-- Two states that agree on everything that belongs to the framework. -/
def sameFw (a b : Fw) : Prop := { a with glob := 0 } = { b with glob := 0 }

theorem sameFw.pending_eq {a b : Fw} (h : sameFw a b) : a.pending = b.pending :=
  (congrArg Fw.pending h :)

/-- Only `readGlobal` looks at the global, and no action lets it leak into the framework's part of the state. -/
theorem run_sameFw {a b : Fw} (hs : sameFw a b) {x : FAct} (hx : x ≠ .readGlobal) :
    (x.run a).2 = (x.run b).2 ∧ sameFw (x.run a).1 (x.run b).1 := by
  obtain ⟨mode, _, _, _, _⟩ := a
  obtain ⟨_, _, _, _, _⟩ := b
  cases hs  -- identifies the framework fields of `a` and `b`
  cases x with
  | readGlobal => exact absurd rfl hx
  | callUnexpected => cases mode <;> exact ⟨rfl, rfl⟩
  | _ => exact ⟨rfl, rfl⟩

theorem runActs_glob_irrelevant (a b : Fw) (t : List FAct) (hs : sameFw a b) (h : usesGlobal t = false) :
    (runActs a t).2 = (runActs b t).2 ∧ sameFw (runActs a t).1 (runActs b t).1 := by
  induction t generalizing a b with
  | nil => exact ⟨rfl, hs⟩
  | cons x as ih =>
    obtain ⟨hx, has⟩ := usesGlobal_cons.1 h
    obtain ⟨h1, h2⟩ := run_sameFw hs hx
    obtain ⟨h3, h4⟩ := ih _ _ h2 has
    exact ⟨by simp only [runActs, h1, h3], h4⟩

theorem runTest_fresh (fw : Fw) (t : List FAct) (h : usesGlobal t = false) :
    (PerTest.runTest resetPerTest fw t).2 = (PerTest.runTest resetPerTest {} t).2 := by
  obtain ⟨h1, h2⟩ := runActs_glob_irrelevant (resetPerTest fw) (resetPerTest {}) t rfl h
  simp only [PerTest.runTest, tally, h1, h2.pending_eq]

/-- In-process execution (CGREEN_NO_FORK) reports, test by test, exactly what forked execution
reports — for every sequence of tests that switch mock mode, leave expectations pending, change the
significant figures or write globals, as long as no test reads a global another one wrote. -/
theorem C13_inproc_eq_fork (ts : List (List FAct)) (h : ∀ t ∈ ts, usesGlobal t = false) (fw : Fw) :
    runInproc resetPerTest fw ts = runFork resetPerTest {} ts := by
  induction ts generalizing fw with
  | nil => rfl
  | cons t ts ih =>
    obtain ⟨ht, hts⟩ := List.forall_mem_cons.1 h
    simp only [runInproc, runFork, List.map_cons, runTest_fresh fw t ht]
    exact congrArg _ (ih hts _)

/-- … and running a test singly gives what it reports in a forked run that contains it. -/
theorem C13_single_eq_fork (ts : List (List FAct)) (i : Nat) (x : List FAct) (hi : ts[i]? = some x) :
    (runFork resetPerTest {} ts)[i]? = some (runSingle resetPerTest x) := by
  rw [runFork, List.getElem?_map, hi]
  rfl

/-- Result delivery does not depend on the mode either (tests that complete normally): same totals,
same result lines, same verdict. -/
theorem C13_delivery (cap : Nat) (hcap : 0 < cap) (r : Reporter) (t : Tree)
    (hf : t.AllOk cap .fork) (hi : t.AllOk cap .inproc) :
    (run ⟨cap, .inproc, r⟩ t).tot = (run ⟨cap, .fork, r⟩ t).tot
    ∧ (run ⟨cap, .inproc, r⟩ t).out.filter Out.isResult = (run ⟨cap, .fork, r⟩ t).out.filter Out.isResult
    ∧ verdict (run ⟨cap, .inproc, r⟩ t) = verdict (run ⟨cap, .fork, r⟩ t) :=
  run_independent cap hcap .inproc .fork r r t hi hf

/-- Witness of finding F05: with the prologue of the pinned commit a loose-mode test makes the next
strict-mode test pass in-process although it fails when forked. -/
theorem C13_F05_witness :
    runInproc resetPerTestOld {} [[.setMode .loose], [.callUnexpected]] = [[], []]
    ∧ runFork resetPerTestOld {} [[.setMode .loose], [.callUnexpected]] = [[], [.fail]] := by decide +kernel

/-- The global is the program's, not the framework's: the excluded case is real. -/
example : runInproc resetPerTest {} [[.writeGlobal], [.readGlobal]] ≠ runFork resetPerTest {} [[.writeGlobal], [.readGlobal]] := by decide +kernel

/-- The plain XML reporter's element for a test is the same in the three modes: what reaches the suite's file does not depend
on whether the test had a process of its own (corollary of `C11_buffer_each_once`). -/
theorem C13_xml_modes_agree (p p' : XmlBuf.Proc) (sh : XmlBuf.Shared) (child parent : List XmlBuf.Text) :
    (XmlBuf.runTest true .length p sh child parent).2.2 = (XmlBuf.runTest false .length p' sh child parent).2.2 := by
  rw [(C11_buffer_each_once true p sh child parent).1, (C11_buffer_each_once false p' sh child parent).1]

end Cgreen
