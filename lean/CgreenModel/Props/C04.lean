import CgreenModel.Model.PerTest
import CgreenModel.Lemmas.Runner
import CgreenModel.Model.Signals
/-!
# C04 — a test's results do not depend on which other tests ran before it (forking mode)
Two parts. (1) Framework and program state: in forking mode a test runs in a copy of the parent's
state and the parent runs no test code, so what a test reports is a function of the test alone
(`Model/PerTest.lean`). That fork gives the child a *copy* is the kernel's behaviour and is assumed.
(2) Result delivery: the results credited to a test are its own whatever the others do
(`Model/Runner.lean`, corollaries of the refinement theorem).
-/
namespace Cgreen
open PerTest

/-- What a forked test reports does not depend on the other tests: it is the same in every run that
contains it, whatever the others do to mock mode, expectations, significant figures or globals. -/
theorem C04_isolated (reset : Fw → Fw) (fw : Fw) (ts ts' : List (List FAct)) (x : List FAct) (i j : Nat)
    (hi : ts[i]? = some x) (hj : ts'[j]? = some x) :
    (runFork reset fw ts)[i]? = (runFork reset fw ts')[j]? := by
  simp only [runFork, List.getElem?_map, hi, hj]

/-- Hence every permutation of the tests yields the same reports, permuted the same way … -/
theorem C04_perm (reset : Fw → Fw) (fw : Fw) (ts ts' : List (List FAct)) (h : ts.Perm ts') :
    (runFork reset fw ts).Perm (runFork reset fw ts') := h.map _

/-- … and every subset (sub-list) yields the corresponding sub-list of reports. -/
theorem C04_sublist (reset : Fw → Fw) (fw : Fw) (ts ts' : List (List FAct)) (h : ts.Sublist ts') :
    (runFork reset fw ts).Sublist (runFork reset fw ts') := h.map _

/-- The same holds even for the defective prologue of the pinned commit: isolation in forking mode
does not rest on the per-test reset but on the parent never running test code. -/
example (ts : List (List FAct)) (h : ts.Perm ts') :
    (runFork resetPerTestOld {} ts).Perm (runFork resetPerTestOld {} ts') := C04_perm _ _ _ _ h

/-- Result delivery: the result lines of the tests of a suite are the concatenation of per-test lines
that depend on the test alone, so permuting the tests permutes the blocks and changes nothing else. -/
theorem C04_delivery (cap : Nat) (su td : Bool) (path : List String) (a b : List Test) (x y : Test) :
    ∃ pre mid post,
      resultsTests cap su td path (a ++ x :: y :: b) = pre ++ (x.results cap su td (path ++ [x.name]) ++ y.results cap su td (path ++ [y.name])) ++ post
      ∧ resultsTests cap su td path (a ++ y :: x :: b) = pre ++ (y.results cap su td (path ++ [y.name]) ++ x.results cap su td (path ++ [x.name])) ++ post
      ∧ mid = () := by
  refine ⟨resultsTests cap su td path a, (), resultsTests cap su td path b, ?_, ?_, rfl⟩ <;>
    simp only [resultsTests_append, resultsTests, List.append_assoc]

/-- The totals do not depend on the order either. -/
theorem C04_totals (cap : Nat) (su td : Bool) (ts ts' : List Test) (h : ts.Perm ts') :
    truthTests cap su td ts = truthTests cap su td ts' := by
  induction h with
  | nil => rfl
  | cons x _ ih => simp [truthTests, ih]
  | swap x y l => simp only [truthTests, ← Cnt.add_assoc]; rw [Cnt.add_comm (y.truth cap su td)]
  | trans _ _ ih1 ih2 => exact ih1.trans ih2

example : runFork resetPerTest {} [[.setMode .loose, .leave, .setFigs 2, .writeGlobal], [.callUnexpected, .dblCheck, .readGlobal]]
    = [[.fail], [.fail, .fail, .pass]] := by decide

end Cgreen

/-! ### What a test inherits from the runner: the disposition of SIGINT (finding F47) -/
namespace Cgreen
open Sig (Disp allowCtrlC allowCtrlCOld ignoreCtrlC forkTest)

theorem forkTest_cur (r : Sig.Runner) (s : Bool) : (forkTest allowCtrlC r s).2.cur = r.cur := by
  cases s <;> rfl

/-- Every test process of a run starts with the disposition of SIGINT the test program itself was started with (default,
ignored as under `nohup`, or a handler of the program's own) - for every number of tests before it, switched off or not -
and the runner has that disposition again when the run is over. -/
theorem C04_sigint_inherited (r : Sig.Runner) (tests : List Bool) :
    (∀ d ∈ (Sig.runTests allowCtrlC r tests).1, d = none ∨ d = some r.cur) ∧ (Sig.runTests allowCtrlC r tests).2.cur = r.cur := by
  induction tests generalizing r with
  | nil => exact ⟨nofun, rfl⟩
  | cons s rest ih =>
    have h := ih (forkTest allowCtrlC r s).2
    rw [forkTest_cur] at h
    refine ⟨List.forall_mem_cons.2 ⟨?_, h.1⟩, h.2⟩
    cases s
    · exact .inr rfl
    · exact .inl rfl

/-- Two tests of the same run therefore start alike, wherever they stand. -/
theorem C04_sigint_same (r : Sig.Runner) (tests : List Bool) (i j : Nat) (a b : Disp)
    (hi : (Sig.runTests allowCtrlC r tests).1[i]? = some (some a)) (hj : (Sig.runTests allowCtrlC r tests).1[j]? = some (some b)) : a = b := by
  have h := (C04_sigint_inherited r tests).1
  have ha := h _ (List.mem_of_getElem? hi)
  have hb := h _ (List.mem_of_getElem? hj)
  simp at ha hb; rw [ha, hb]

/-- Witness for F47: with the `allow_ctrl_c()` of the pinned commit a program started with SIGINT ignored hands that to its
first test only. -/
theorem C04_F47_witness : (Sig.runTests allowCtrlCOld { cur := .ign } [false, false]).1 = [some .ign, some .dfl] := by decide

example : (Sig.runTests allowCtrlC { cur := .ign } [false, true, false]).1 = [some .ign, none, some .ign] := by decide

end Cgreen
