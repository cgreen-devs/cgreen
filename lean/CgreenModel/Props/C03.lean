import CgreenModel.Lemmas.Runner
import CgreenModel.Model.Cute
/-!
# C03 — reported totals equal what happened; every result is attributed to its test
-/
namespace Cgreen

/-- The totals the run accumulates are exactly what happened, for every tree. -/
theorem C03_totals (cap : Nat) (hcap : 0 < cap) (m : Mode) (r : Reporter) (t : Tree) (hok : t.AllOk cap m) :
    (run ⟨cap, m, r⟩ t).tot = t.truth cap := (run_spec cap hcap m r t hok).2.2.1

/-- Everything a reporter can show that does not depend on process ids — failure messages, exception
lines, per-test credit, per-suite lines, totals — is the list computed from the tree alone:
each line carries the path of the test or suite that produced it, in execution order. -/
theorem C03_results (cap : Nat) (hcap : 0 < cap) (m : Mode) (r : Reporter) (t : Tree) (hok : t.AllOk cap m) :
    (run ⟨cap, m, r⟩ t).out.filter Out.isResult = t.results cap [] ++ [Out.totals (t.truth cap)] :=
  (run_spec cap hcap m r t hok).2.2.2

/-- The channel is empty when the run ends: nothing was left over to be credited to anybody else. -/
theorem C03_channel_empty (cap : Nat) (hcap : 0 < cap) (m : Mode) (r : Reporter) (t : Tree) (hok : t.AllOk cap m) :
    (run ⟨cap, m, r⟩ t).pipe = [] := (run_spec cap hcap m r t hok).2.1

/-- Sum of the per-suite lines. -/
def sumSuiteEnds : List Out → Cnt
  | [] => 0
  | .suiteEnd _ c :: l => c + sumSuiteEnds l
  | _ :: l => sumSuiteEnds l

theorem sumSuiteEnds_append (a b : List Out) : sumSuiteEnds (a ++ b) = sumSuiteEnds a + sumSuiteEnds b := by
  induction a with
  | nil => simp [sumSuiteEnds]
  | cons x a ih => cases x <;> simp [sumSuiteEnds, ih, Cnt.add_assoc]

theorem sumSuiteEnds_test (cap : Nat) (su td : Bool) (tp : List String) (t : Test) :
    sumSuiteEnds (t.results cap su td tp) = 0 := by
  rw [Test.results_eq]; cases t.xskip <;> cases t.abnormal cap su td <;> rfl

theorem sumSuiteEnds_tests (cap : Nat) (su td : Bool) (path : List String) (ts : List Test) :
    sumSuiteEnds (resultsTests cap su td path ts) = 0 := by
  induction ts with
  | nil => simp [resultsTests, sumSuiteEnds]
  | cons t ts ih => simp [resultsTests, sumSuiteEnds_append, sumSuiteEnds_test, ih]

mutual
theorem sumSuiteEnds_tree (cap : Nat) : ∀ (t : Tree) (parent : List String),
    sumSuiteEnds (t.results cap parent) = t.truth cap
  | .node name su td subs tests, parent => by
    simp [Tree.results, Tree.truth, sumSuiteEnds_append, sumSuiteEnds_tests, sumSuiteEnds,
      sumSuiteEnds_subs cap subs (parent ++ [name])]
theorem sumSuiteEnds_subs (cap : Nat) : ∀ (cs : List Tree) (path : List String),
    sumSuiteEnds (resultsSubs cap path cs) = truthSubs cap cs
  | [], _ => by simp [resultsSubs, truthSubs, sumSuiteEnds]
  | c :: cs, path => by
    simp [resultsSubs, truthSubs, sumSuiteEnds_append, sumSuiteEnds_tree cap c path, sumSuiteEnds_subs cap cs path]
end

/-- The per-suite subtotals a reporter prints add up to the grand total it prints. -/
theorem C03_subtotals (cap : Nat) (hcap : 0 < cap) (m : Mode) (r : Reporter) (t : Tree) (hok : t.AllOk cap m) :
    sumSuiteEnds ((run ⟨cap, m, r⟩ t).out.filter Out.isResult) = (run ⟨cap, m, r⟩ t).tot := by
  rw [C03_results cap hcap m r t hok, C03_totals cap hcap m r t hok]
  simp [sumSuiteEnds_append, sumSuiteEnds_tree, sumSuiteEnds]

/-- Per-test status (CUTE `#success`, XML `<testcase>` children): the credit the parent gives a test is
that test's own truth, so "successful" means exactly "no failure and no exception of that test". -/
theorem C03_status (cap : Nat) (su td : Bool) (tp : List String) (t : Test) :
    ∀ d st, Out.testEnd tp d st ∈ t.results cap su td tp → d = t.truth cap su td := by
  intro d st h
  rw [Test.results_eq] at h
  cases t.xskip <;> cases t.abnormal cap su td <;> simp at h <;> exact h.1

/-- The reader as it was at the pinned commit (F01): after a test that called `skip_test()` the
completion notice stays in the channel — the witness that made the totals theorem unprovable. -/
theorem C03_F01_witness : (readResultsOld 0 [.skipped, .pass, .completion]).2.1 = [.pass, .completion] := by decide

/-- The repaired reader on the same input drains the test's records. -/
theorem C03_F01_repaired : (readResults 0 false [.skipped, .pass, .completion]).2.1 = [] := by decide

-- a channel of four records and a test with five checks: the four delivered results are counted, the test is one exception (C18)
example : (run ⟨4, .fork, .text⟩ (.node "top" false false [] [{ name := "t", body := [.check true, .check true, .check true, .check false, .check true] }])).tot
    = ⟨3, 1, 0, 1⟩ := by decide

/-! ### What the CUTE reporter says about a test (`Model/Cute.lean`) -/

theorem Cute.showFails_lines (m : Cute.Memo) (n : Nat) :
    (Cute.showFails m n).2 = (if m.previousError = false ∧ n > 0 then [Cute.Line.failure] else [])
    ∧ (Cute.showFails m n).1.errorCount = m.errorCount := by
  induction n generalizing m with
  | zero => simp [Cute.showFails]
  | succ n ih =>
    simp only [Cute.showFails, Cute.showFail]
    split
    · rename_i h; have := ih m; simp_all
    · rename_i h; have := ih { m with previousError := true }; simp_all

/-- **CUTE's per-test status.** Whatever the memo and the suite's counters hold when a test starts (whatever ran before it),
forked or in the reporting process: the test gets its `#starting` line, one `#failure` line exactly when it failed a check,
one `#error` line exactly when it ended abnormally, and `#success` exactly when no failure of it was counted and it completed. -/
theorem C03_cute_status (forked : Bool) (m : Cute.Memo) (k : Cute.Counters) (shown delivered : Nat) (abnormal : Bool) :
    (Cute.runTest Cute.startTest forked m k shown delivered abnormal).2.2 = Cute.spec shown delivered abnormal := by
  have h := Cute.showFails_lines { errorCount := k.failures + k.exceptions, previousError := false } shown
  simp only [Cute.runTest, Cute.startTest, Cute.finishTest, Cute.spec]
  rw [h.1]
  have he : (if forked = true then ({ errorCount := k.failures + k.exceptions, previousError := false } : Cute.Memo)
      else (Cute.showFails { errorCount := k.failures + k.exceptions, previousError := false } shown).1).errorCount = k.failures + k.exceptions := by
    split <;> simp [h.2]
  simp only [he]
  cases abnormal <;> simp <;> omega

/-- ... for every sequence of tests of a suite, each on the memo and the counters its predecessors leave behind. -/
theorem C03_cute_sequence (forked : Bool) (m : Cute.Memo) (k : Cute.Counters) (ts : List (Nat × Nat × Bool)) :
    Cute.runTests Cute.startTest forked m k ts = ts.map (fun t => Cute.spec t.1 t.2.1 t.2.2) := by
  induction ts generalizing m k with
  | nil => rfl
  | cons t ts ih =>
    obtain ⟨s, d, a⟩ := t
    simp only [Cute.runTests, List.map_cons]
    rw [ih]
    congr 1
    exact C03_cute_status forked m k s d a

/-- Witness for the seeded changes C13-A6 / C13-B8 / C03-B10 (the "failure shown" flag set once, not per test): invisible when
every test has a process of its own, the second failing test of a process shows nothing otherwise. -/
theorem C03_cute_flag_witness :
    Cute.runTests Cute.startTestKeepFlag true ⟨0, false⟩ ⟨0, 0⟩ [(1, 1, false), (2, 2, false)] = [[.starting, .failure], [.starting, .failure]]
    ∧ Cute.runTests Cute.startTestKeepFlag false ⟨0, false⟩ ⟨0, 0⟩ [(1, 1, false), (2, 2, false)] = [[.starting, .failure], [.starting]] := by decide

/-- Witness for the seeded change C17-B (the baseline kept although the runner has reset the counters underneath it): a test that
fails after such a reset is marked successful. -/
theorem C03_cute_baseline_witness :
    (Cute.runTest Cute.startTestKeepBaseline true ⟨1, false⟩ ⟨0, 0⟩ 1 1 false).2.2 = [.starting, .failure, .success] := by decide

example : Cute.runTests Cute.startTest false ⟨7, true⟩ ⟨3, 1⟩ [(0, 0, false), (2, 2, false), (1, 0, true), (0, 0, true)]
    = [[.starting, .success], [.starting, .failure], [.starting, .failure, .error], [.starting, .error]] := by decide

end Cgreen
