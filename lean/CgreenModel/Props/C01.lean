import CgreenModel.Lemmas.Runner
import CgreenModel.Lemmas.Faults
/-!
# C01 — the run verdict is failure iff some test failed or ended abnormally

`run cfg t` is the model of `run_test_suite()` (Model/Runner.lean);
`Tree.truth` is what happened, computed from the test scripts alone.
-/
namespace Cgreen

/-- The verdict of a completed run is success exactly when no executed check failed and no test ended
abnormally — for every suite tree, every capacity, forked and in-process execution. -/
theorem C01_verdict (cap : Nat) (hcap : 0 < cap) (m : Mode) (r : Reporter) (t : Tree) (hok : t.AllOk cap m) :
    verdict (run ⟨cap, m, r⟩ t) = some (if (t.truth cap).f = 0 ∧ (t.truth cap).e = 0 then 0 else 1) := by
  obtain ⟨hh, _, ht, _⟩ := run_spec cap hcap m r t hok
  simp [verdict, hh, ht]

/-- … and "no executed check failed and no test ended abnormally" is meant per test, anywhere in the tree. -/
theorem C01_anywhere (cap : Nat) (t : Tree) :
    ((t.truth cap).f = 0 ∧ (t.truth cap).e = 0)
      ↔ ∀ x ∈ t.allTests, (x.2.2.truth cap x.1 x.2.1).f = 0 ∧ (x.2.2.truth cap x.1 x.2.1).e = 0 := by
  rw [Tree.truth_eq_sum]; exact sumTruth_clean cap _

/-- What the caller of the process sees says "success" exactly in that case. -/
theorem C01_process (cap : Nat) (hcap : 0 < cap) (m : Mode) (r : Reporter) (t : Tree) (hok : t.AllOk cap m) :
    (run ⟨cap, m, r⟩ t).procEnd.success = true ↔ ((t.truth cap).f = 0 ∧ (t.truth cap).e = 0) := by
  obtain ⟨hh, _, ht, _⟩ := run_spec cap hcap m r t hok
  simp [St.procEnd, hh, ht, ProcEnd.success]

/-- A test is counted as ended abnormally exactly when its process ended before the completion notice
or was killed by a signal after it. -/
theorem C01_exception_iff (cap : Nat) (su td : Bool) (t : Test) :
    (t.truth cap su td).e = (if t.abnormal cap su td then 1 else 0) := by
  cases hx : t.xskip <;> simp [Test.truth, Test.abnormal, hx, Proc.truth_eq, Rec.cnt]

/-- In-process execution: when test code ends the process that owns the verdict, the way the process
ends never says "success" — except through `_exit(0)`, which the library cannot intercept (known
finding F04b). -/
theorem C01_killed (s : St) (d : Death) (h : s.halted = some d) (hd : d ≠ .uexit0) :
    s.procEnd.success = false := by
  cases d <;> simp_all [St.procEnd, ProcEnd.success]

/-- Witness for F04b: the excluded case really is a failure of the full statement. -/
theorem C01_uexit_witness :
    (run ⟨4096, .inproc, .text⟩ (.node "top" false false [] [{ name := "t", body := [.check false, .die .uexit0] }])).procEnd.success = true := by
  decide

/-! Non-vacuity: a concrete non-trivial tree meets the hypotheses. -/
def exampleTree : Tree :=
  .node "top" false true
    [.node "sub" true false [] [{ name := "a", body := [.check true, .check false, .decl false] },
                                { name := "b", xskip := true }]]
    [{ name := "c", ctx := some ([.check true], [.check false]), body := [.check true, .die (.signal 11), .check true] },
     { name := "d", body := [.skip, .check true] }]

example : exampleTree.AllOk 4096 .fork := by
  simp [exampleTree, Tree.AllOk, allOkSubs, Test.ok, Proc.ok]
  decide

example : verdict (run ⟨4096, .fork, .text⟩ exampleTree) = some 1 := by decide
example : exampleTree.truth 4096 = ⟨4, 2, 2, 1⟩ := by decide

/-! ### Failed checks outside a test's own bracket (the run as the result channel sees it: `Model/Faults.lean`) -/
section OutsideBracket
open Faults

/-- Without a fault every reader leaves the channel empty (`channel_empty_after_every_reader`), so every failure or
exception record that reached the channel has been counted, whoever sent it and
whenever: inside a test's bracket, from a suite fixture that the reporting process runs around a sub-suite, or
from an exit handler of a test's process after its completion notice (such records are simply part of the
group the next reader finds). -/
theorem C01_every_record_counted (phases : List Leg) (hok : ∀ ph ∈ phases, PhaseOk ph) :
    sentBad phases ≤ bad (runPhases none phases).cnt := by
  have hc := conserve_run none phases {}
  have hp := channel_empty_after_every_reader phases hok
  unfold runPhases at hp ⊢
  rw [hp] at hc
  have h0 : bad ({} : RSt).cnt + nbad ({} : RSt).pipe = 0 := rfl      -- for `omega`: the run starts with nothing counted or sent
  simp only [nbad] at hc
  omega

/-- … hence one such record is enough for a failing verdict. -/
theorem C01_outside_bracket_verdict (phases : List Leg) (hok : ∀ ph ∈ phases, PhaseOk ph) (h : 0 < sentBad phases) :
    success (runPhases none phases) = false :=
  success_eq_false_of_bad _ (Nat.lt_of_lt_of_le h (C01_every_record_counted phases hok))

/-- A failed check in the teardown fixture of the outermost suite (sent by the reporting process after the
sub-suite, read when the suite is finished), and one from an exit handler of the last test. -/
example : (runPhases none [{ recs := [.pass] }, { recs := [], isTest := false }, { recs := [.fail], isTest := false }]).cnt = ⟨1, 1, 0, 0⟩ := by decide
example : (runPhases none [{ recs := [.pass] }, { recs := [.fail], isTest := false }]).cnt = ⟨1, 1, 0, 0⟩ := by decide

end OutsideBracket

end Cgreen
