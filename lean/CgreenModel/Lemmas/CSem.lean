import CgreenModel.Model.CSem
/-! The libc comparisons of `Model/CSem.lean` as the Booleans of `Model/Compare.lean`, in both operand orders the C writes
(`strcmp(a, b) == 0` and `0 == strcmp(a, b)`); used by the obligations `translate/comparators.py` generates. -/
namespace Cgreen.CSem
open Cgreen.Cmp (CStr)

theorem strcmp_eq_zero (a b : CStr) : strcmp a b = 0 ↔ a = b := by
  induction a generalizing b with
  | nil => cases b <;> simp [strcmp]
  | cons x xs ih =>
    cases b with
    | nil => simp [strcmp]
    | cons y ys =>
      simp only [strcmp]
      by_cases h : x = y
      · simp [h, ih]
      · simp only [h, if_false]
        split <;> simp [h]

theorem strcmp_beq (a b : CStr) : (strcmp a b == 0) = (a == b) := by
  rw [Bool.eq_iff_iff, beq_iff_eq, beq_iff_eq, strcmp_eq_zero]

theorem strcmp_beq' (a b : CStr) : ((0 : Int) == strcmp a b) = (a == b) := by
  rw [← strcmp_beq, Bool.beq_comm]

theorem memcmp_beq (p q : List UInt8) (n : Nat) : (memcmp p q n == 0) = Cgreen.Cmp.memcmpEq p q n := by
  simp [memcmp, Cgreen.Cmp.memcmpEq, strcmp_beq]

theorem memcmp_beq' (p q : List UInt8) (n : Nat) : ((0 : Int) == memcmp p q n) = Cgreen.Cmp.memcmpEq p q n := by
  rw [← memcmp_beq, Bool.beq_comm]

end Cgreen.CSem
