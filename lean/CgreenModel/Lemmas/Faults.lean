import CgreenModel.Model.Faults
/-! Lemmas about result delivery with one failing read (used by Props/C19.lean): nothing a reader passes over is
lost (`conserve_run`), and what it leaves in the channel is what follows the first completion notice unless the
failing read hit in that very loop (`readLoop_spec`), which gives the invariant `Inv`. -/
namespace Cgreen.Faults
open Cgreen

/-- Failures and exceptions counted: what makes the verdict a failure. -/
def bad (c : Cnt) : Nat := c.f + c.e

/-- A counted failure or exception is a failing verdict. -/
theorem success_eq_false_of_bad (s : RSt) (h : 0 < bad s.cnt) : success s = false := by
  simp only [success, bad, Bool.and_eq_false_iff, beq_eq_false_iff_ne] at *
  omega

theorem nbad_append (a b : List Rec) : nbad (a ++ b) = nbad a + nbad b := by
  induction a with
  | nil => simp [nbad]
  | cons r a ih => cases r <;> simp [nbad, ih] <;> omega

/-- Reading moves records from the channel into the counters; it never discards one. -/
theorem readLoop_conserve (k : Option Nat) : ∀ (pipe : List Rec) (n : Nat) (sk : Bool) (c : Cnt),
    bad (readLoop k n sk c pipe).2.1 + nbad (readLoop k n sk c pipe).2.2.1 = bad c + nbad pipe := by
  intro pipe
  induction pipe with
  | nil => intro n sk c; simp [readLoop, nbad]
  | cons r rest ih =>
    intro n sk c
    unfold readLoop
    by_cases hk : k = some n
    · simp [hk]
    · simp only [hk, if_false]
      cases r with
      | completion => simp [nbad]
      | pass => simp only []; rw [ih]; simp [bad, nbad]
      | fail => simp only []; rw [ih]; simp [bad, nbad]; omega
      | exception => simp only []; rw [ih]; simp [bad, nbad]; omega
      | skipped => simp only []; rw [ih]; cases sk <;> simp [bad, nbad]

/-- What follows the first completion notice. -/
def afterCompl : List Rec → List Rec
  | [] => []
  | .completion :: l => l
  | _ :: l => afterCompl l

theorem afterCompl_append (a b : List Rec) :
    afterCompl (a ++ b) = if Rec.completion ∈ a then afterCompl a ++ b else afterCompl b := by
  induction a with
  | nil => rfl
  | cons r a ih => cases r <;> simp [afterCompl, ih]

/-- The completion notice, if the list holds one, is its last element. -/
def OnlyLast (L : List Rec) : Prop := afterCompl L = []

theorem onlyLast_nil : OnlyLast [] := rfl

theorem onlyLast_suffix (pre L : List Rec) (h : OnlyLast (pre ++ L)) : OnlyLast L := by
  unfold OnlyLast at *
  rw [afterCompl_append] at h
  split at h
  · rw [(List.append_eq_nil_iff.mp h).2]; rfl
  · exact h

/-- The failing read, if there is one, has not happened before read `n`. -/
def Unfired (k : Option Nat) (n : Nat) : Prop := ∀ kk, k = some kk → n ≤ kk

/-- A reader makes at least one `read()`, and what it leaves in the channel is what follows the first completion
notice — unless the failing `read()` is one of its own, and then it is a part of what it found. -/
theorem readLoop_spec (k : Option Nat) : ∀ (pipe : List Rec) (n : Nat) (sk : Bool) (c : Cnt),
    n < (readLoop k n sk c pipe).1 ∧ (readLoop k n sk c pipe).2.2.1 <:+ pipe
    ∧ ((readLoop k n sk c pipe).2.2.1 = afterCompl pipe ∨ ∃ kk, k = some kk ∧ n ≤ kk ∧ kk < (readLoop k n sk c pipe).1) := by
  intro pipe
  induction pipe with
  | nil => intro n sk c; simp [readLoop, afterCompl]
  | cons r rest ih =>
    intro n sk c
    unfold readLoop
    by_cases hk : k = some n
    · simp [hk]
    · have step : ∀ (sk' : Bool) (c' : Cnt), r ≠ .completion →
          n < (readLoop k (n + 1) sk' c' rest).1 ∧ (readLoop k (n + 1) sk' c' rest).2.2.1 <:+ r :: rest
          ∧ ((readLoop k (n + 1) sk' c' rest).2.2.1 = afterCompl (r :: rest)
              ∨ ∃ kk, k = some kk ∧ n ≤ kk ∧ kk < (readLoop k (n + 1) sk' c' rest).1) := by
        intro sk' c' hr
        obtain ⟨h1, h2, h3⟩ := ih (n + 1) sk' c'
        refine ⟨by omega, h2.trans (List.suffix_cons r rest), ?_⟩
        rcases h3 with h3 | ⟨kk, e, h4, h5⟩
        · left; rw [h3]; cases r <;> first | rfl | exact absurd rfl hr
        · exact .inr ⟨kk, e, by omega, h5⟩
      simp only [hk, if_false]
      cases r with
      | completion => exact ⟨by simp, List.suffix_cons _ _, .inl rfl⟩
      | pass => exact step _ _ (by decide)
      | fail => exact step _ _ (by decide)
      | exception => exact step _ _ (by decide)
      | skipped => exact step _ _ (by decide)

/-- Invariant of a run with at most one failing read: until it fails every reader leaves the channel
empty; afterwards the channel holds at most one completion notice, at its end. -/
def Inv (k : Option Nat) (s : RSt) : Prop := OnlyLast s.pipe ∧ (Unfired k s.reads → s.pipe = [])
/-- A sender writes no completion notice among its records (only, if it lives, after them). -/
def PhaseOk (ph : Leg) : Prop := Rec.completion ∉ ph.recs

/-- A run starts with the invariant. -/
theorem inv_empty (k : Option Nat) : Inv k {} := ⟨onlyLast_nil, fun _ => rfl⟩

theorem onlyLast_group (ph : Leg) (h : PhaseOk ph) : OnlyLast ph.group := by
  unfold OnlyLast Leg.group
  rw [afterCompl_append, if_neg h]
  split <;> rfl

theorem afterCompl_suffix : ∀ l : List Rec, afterCompl l <:+ l
  | [] => List.suffix_refl _
  | r :: l => by
    cases r with
    | completion => exact List.suffix_cons _ _
    | _ => exact (afterCompl_suffix l).trans (List.suffix_cons _ _)

/-- A group `g` arrives on a channel that satisfies the invariant: the reader leaves a part of `g`, and what follows the
first completion notice of `g` unless the failing read has happened by then. -/
theorem readLoop_inv (k : Option Nat) (s : RSt) (g : List Rec) (hinv : Inv k s) :
    (readLoop k s.reads false s.cnt (s.pipe ++ g)).2.2.1 <:+ g
    ∧ (Unfired k (readLoop k s.reads false s.cnt (s.pipe ++ g)).1 →
        (readLoop k s.reads false s.cnt (s.pipe ++ g)).2.2.1 = afterCompl g) := by
  obtain ⟨hlast, hempty⟩ := hinv
  obtain ⟨hlt, hsuf, hrest⟩ := readLoop_spec k (s.pipe ++ g) s.reads false s.cnt
  rcases hrest with hrest | ⟨kk, hk, hle, hfired⟩
  · -- no read of this loop failed: what was left behind ended in a notice and the whole group stays, or the group is read to its end
    rw [hrest, afterCompl_append]
    split
    · rename_i hm
      rw [hlast, List.nil_append]
      refine ⟨List.suffix_refl _, fun hu => ?_⟩
      rw [hempty fun kk e => by have := hu kk e; omega] at hm
      cases hm
    · exact ⟨afterCompl_suffix g, fun _ => rfl⟩
  · -- the failing read is one of this loop's: no earlier one failed, the channel held this group only
    have hp : s.pipe = [] := hempty fun kk' e => by cases hk.symm.trans e; exact hle
    rw [hp, List.nil_append] at hsuf hfired ⊢
    exact ⟨hsuf, fun hu => by have := hu kk hk; omega⟩

theorem inv_step (k : Option Nat) (s : RSt) (ph : Leg) (hinv : Inv k s) (hok : PhaseOk ph) : Inv k (phaseStep k s ph) := by
  obtain ⟨⟨pre, e⟩, hun⟩ := readLoop_inv k s ph.group hinv
  have hg := onlyLast_group ph hok
  exact ⟨onlyLast_suffix pre _ (e ▸ hg), fun hu => (hun hu).trans hg⟩

theorem inv_run (k : Option Nat) : ∀ (phases : List Leg) (s : RSt), Inv k s → (∀ ph ∈ phases, PhaseOk ph) →
    Inv k (phases.foldl (phaseStep k) s) :=
  fun phases _ h hok => List.foldlRecOn phases (phaseStep k) h fun s hs ph hph => inv_step k s ph hs (hok ph hph)

/-- Without a fault every reader leaves the channel empty. -/
theorem channel_empty_after_every_reader (phases : List Leg) (hok : ∀ ph ∈ phases, PhaseOk ph) :
    (runPhases none phases).pipe = [] :=
  (inv_run none phases {} (inv_empty _) hok).2 (fun _ h => nomatch h)

/-- Counted plus still in the channel is at least everything sent (readers only add exceptions). -/
theorem conserve_step (k : Option Nat) (s : RSt) (ph : Leg) :
    bad s.cnt + nbad s.pipe + nbad ph.group ≤ bad (phaseStep k s ph).cnt + nbad (phaseStep k s ph).pipe := by
  have h := readLoop_conserve k (s.pipe ++ ph.group) s.reads false s.cnt
  rw [nbad_append] at h
  have hmono : ∀ (exc : Bool) (c : Cnt), bad c ≤ bad (bump exc c) := by
    intro exc c; cases exc <;> simp [bad, bump]
  simp only [phaseStep]
  have := hmono (excOf ph (readLoop k s.reads false s.cnt (s.pipe ++ ph.group)).2.2.2) (readLoop k s.reads false s.cnt (s.pipe ++ ph.group)).2.1
  omega

theorem conserve_run (k : Option Nat) : ∀ (phases : List Leg) (s : RSt),
    bad s.cnt + nbad s.pipe + sentBad phases ≤ bad (phases.foldl (phaseStep k) s).cnt + nbad (phases.foldl (phaseStep k) s).pipe := by
  intro phases
  induction phases with
  | nil => intro s; simp [sentBad]
  | cons ph rest ih =>
    intro s
    have h1 := conserve_step k s ph
    have h2 := ih (phaseStep k s ph)
    simp only [sentBad, List.map_cons, List.sum_cons, List.foldl_cons] at *
    omega

/-- The phase that ends every run: the outermost suite's completion notice, read by finish_suite. -/
def top : Leg := { recs := [], complete := true, isTest := false }

theorem final_pipe (k : Option Nat) (s : RSt) (hinv : Inv k s) : nbad (phaseStep k s top).pipe = 0 := by
  obtain ⟨⟨pre, e⟩, _⟩ := readLoop_inv k s top.group hinv
  have := congrArg nbad e
  rw [nbad_append] at this
  exact Nat.eq_zero_of_add_eq_zero_left this

end Cgreen.Faults
