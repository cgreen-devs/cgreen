import CgreenModel.Lemmas.Faults
import CgreenModel.Lemmas.Runner
/-! The channel model (Model/Faults.lean) as an abstraction of the runner model (Model/Runner.lean): the legs of a
suite tree, and what the channel model makes of them (used by Props/C19.lean). -/
namespace Cgreen
open Faults

/-- Finish statuses of the two models. -/
def Finish.toStatus : Finish → Status
  | .received => .received | .skippedSt => .skipped | .notReceived => .notReceived

/-- The reader of the channel model, without a failing read, is the reader of the runner model. -/
theorem readLoop_none_eq : ∀ (pipe : List Rec) (n : Nat) (sk : Bool) (c : Cnt),
    (readLoop none n sk c pipe).2.1 = (readResults c sk pipe).1
    ∧ (readLoop none n sk c pipe).2.2.1 = (readResults c sk pipe).2.1
    ∧ (readLoop none n sk c pipe).2.2.2 = (readResults c sk pipe).2.2.toStatus := by
  intro pipe
  induction pipe with
  | nil => intro n sk c; cases sk <;> simp [readLoop, readResults, statusEnd, Finish.toStatus]
  | cons r rest ih =>
    intro n sk c
    -- `{ c with p := c.p + 1 }` is `c + Rec.pass.cnt` by unfolding, and so for the other records
    cases r with
    | completion => cases sk <;> simp [readLoop, readResults, Finish.toStatus]
    | skipped => cases sk <;> exact ih _ _ _
    | _ => exact ih _ _ _

/-- The leg a test's process is, for the channel: what it wrote, whether a completion notice is among it, and
whether the reporting process is told that it was killed. -/
def legOfProc (pr : Proc) : Leg :=
  { recs := pr.pipe.filter (· != .completion), complete := pr.pipe.contains .completion, isTest := true,
    signalled := signalMsg (pr.dead <|> pr.late) }

theorem legOfProc_group (pr : Proc) (h : pr.Shape) : (legOfProc pr).group = pr.pipe := by
  obtain ⟨w, hw, hc, _⟩ := h
  have hf : w.filter (· != .completion) = w := List.filter_eq_self.mpr fun a ha => by
    have : a ≠ .completion := fun e => hc (e ▸ ha)
    simpa using this
  rw [legOfProc, Leg.group, hw]
  split <;> simp [List.filter_append, hf, hc]

/-- One test's leg on an empty channel: what the reporting process concludes is what `finishTest` of the runner
model concludes — the counters grow by the test's own truth and the channel is empty again. -/
theorem phaseStep_proc (pr : Proc) (hok : pr.ok) (hshape : pr.Shape) (s : RSt) (hp : s.pipe = []) :
    (phaseStep none s (legOfProc pr)).cnt = s.cnt + pr.truth ∧ (phaseStep none s (legOfProc pr)).pipe = [] := by
  have hft := finishTest_of_proc pr hok hshape { pipe := pr.pipe, cur := s.cnt } [] rfl
  obtain ⟨h1, h2, h3⟩ := readLoop_none_eq pr.pipe s.reads false s.cnt
  have hcur := congrArg St.cur hft
  have hpipe := congrArg St.pipe hft
  simp only [finishTest] at hcur hpipe
  simp only [phaseStep, hp, List.nil_append, legOfProc_group pr hshape, h1, h2, h3]
  refine ⟨?_, hpipe⟩
  rw [← hcur]
  simp only [excOf, legOfProc, bump]
  have hex : ∀ c : Cnt, ({ p := c.p, f := c.f, s := c.s, e := c.e + 1 } : Cnt) = c + Rec.exception.cnt := fun _ => rfl
  cases hst : (readResults s.cnt false pr.pipe).2.2 <;> simp [Finish.toStatus, hex]

/-- The leg of a test: a test skipped by declaration is a `skipped` record sent by the reporting process itself. -/
def legOfTest (cap : Nat) (su td : Bool) (t : Test) : Leg :=
  if t.xskip then { recs := [.skipped], complete := false, isTest := true } else legOfProc (runCode cap [] su td t)

mutual
/-- A whole run as the channel sees it: sub-suites first, then the suite's own tests, then the suite's completion notice. -/
def Tree.legs (cap : Nat) : Tree → List Leg
  | .node _ su td subs tests => legsOfSubs cap subs ++ (tests.map (legOfTest cap su td) ++ [top])
def legsOfSubs (cap : Nat) : List Tree → List Leg
  | [] => []
  | c :: cs => c.legs cap ++ legsOfSubs cap cs
end

/-- The legs `l`, fed to the channel model on an empty channel without a failing read, add `d` to the counters and leave
the channel empty. -/
def Adds (l : List Leg) (d : Cnt) : Prop :=
  ∀ s : RSt, s.pipe = [] → (l.foldl (phaseStep none) s).cnt = s.cnt + d ∧ (l.foldl (phaseStep none) s).pipe = []

theorem Adds.nil : Adds [] 0 := fun s hp => ⟨by simp, hp⟩

theorem Adds.append {a b : List Leg} {d e : Cnt} (ha : Adds a d) (hb : Adds b e) : Adds (a ++ b) (d + e) := fun s hp => by
  obtain ⟨h1, h2⟩ := ha s hp
  obtain ⟨i1, i2⟩ := hb _ h2
  rw [List.foldl_append, i1, h1, Cnt.add_assoc]
  exact ⟨rfl, i2⟩

theorem adds_top : Adds [top] 0 := fun s hp => by
  simp [phaseStep, hp, top, Leg.group, readLoop, excOf, bump]

theorem adds_test (cap : Nat) (su td : Bool) (t : Test) (hok : t.ok cap .fork su td) :
    Adds [legOfTest cap su td t] (t.truth cap su td) := fun s hp => by
  unfold legOfTest Test.truth
  cases hx : t.xskip with
  | true => simp [phaseStep, hp, Leg.group, readLoop, statusEnd, excOf, bump, Rec.cnt, Cnt.add_def]
  | false => exact phaseStep_proc _ (hok hx).1 (runCode_shape cap su td t) s hp

theorem adds_tests (cap : Nat) (su td : Bool) : ∀ ts : List Test, (∀ t ∈ ts, t.ok cap .fork su td) →
    Adds (ts.map (legOfTest cap su td)) (truthTests cap su td ts)
  | [], _ => Adds.nil
  | t :: ts, hok =>
    (adds_test cap su td t (hok t List.mem_cons_self)).append (adds_tests cap su td ts fun x hx => hok x (List.mem_cons_of_mem _ hx))

mutual
/-- The legs of a tree, fed to the channel model without a failing read, add the tree's truth to the counters and leave the
channel empty. -/
theorem foldl_tree (cap : Nat) : ∀ (t : Tree) (s : RSt), s.pipe = [] → t.AllOk cap .fork →
    ((t.legs cap).foldl (phaseStep none) s).cnt = s.cnt + t.truth cap ∧ ((t.legs cap).foldl (phaseStep none) s).pipe = []
  | .node name su td subs tests, s, hp, hok => by
    obtain ⟨hoks, hokt⟩ := (Tree.allOk_node ..).mp hok
    have h : Adds (legsOfSubs cap subs) (truthSubs cap subs) := fun s hp => foldl_subs cap subs s hp hoks
    simpa [Tree.legs, Tree.truth] using (h.append ((adds_tests cap su td tests hokt).append adds_top)) s hp
theorem foldl_subs (cap : Nat) : ∀ (cs : List Tree) (s : RSt), s.pipe = [] → allOkSubs cap .fork cs →
    ((legsOfSubs cap cs).foldl (phaseStep none) s).cnt = s.cnt + truthSubs cap cs ∧ ((legsOfSubs cap cs).foldl (phaseStep none) s).pipe = []
  | [], s, hp, _ => Adds.nil s hp
  | c :: cs, s, hp, hok => by
    obtain ⟨hokc, hoks⟩ := (allOkSubs_cons ..).mp hok
    have hc : Adds (c.legs cap) (c.truth cap) := fun s hp => foldl_tree cap c s hp hokc
    have hs : Adds (legsOfSubs cap cs) (truthSubs cap cs) := fun s hp => foldl_subs cap cs s hp hoks
    simpa [legsOfSubs, truthSubs] using (hc.append hs) s hp
end

end Cgreen
