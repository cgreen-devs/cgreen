import CgreenModel.Model.Xml
/-! Lemmas about the XML escaping models (used by Props/C11.lean), in three groups.
* The plain XML reporter: `escByte_spec` says, byte by byte, what `decode` and `attrOk` make of the escaped form - one of the five
  entities, or `plain` bytes, which stand for themselves; `decode_escape`, `attrOk_escape` and the length bound are inductions over it.
* UTF-8: `Seq s u l` (`s` starts with a sequence of `l` bytes for the value `u`, written with the payloads of its bytes) is what
  `headSeq` accepts (`Seq.of_headSeq`, `Seq.headSeq_eq`) and what `encodeUTF8` writes (`encode_seq`, and `Seq.bytes` for the
  converse, which holds of a sequence that is not overlong).
* The libxml2 reporter's escaping loop, for any fuel: `escapePropF_allowed`, `escapePropF_stable`, `escapePropF_encode`,
  `escapePropBytesF_eq`. -/
namespace Cgreen.Xml

/-! ### The bytes of `\xNN` -/

theorem hexDigit_range (n : Nat) : 48 ≤ hexDigit n ∧ hexDigit n ≠ 60 ∧ (n < 16 → hexDigit n < 127) := by
  unfold hexDigit; split <;> omega

/-- `\xNN` is made of printable ASCII other than `<` (for a byte: the hexadecimal digits are `0`..`9`, `a`..`f`). -/
theorem backslashX_range {b x : Nat} (hx : x ∈ backslashX b) : 48 ≤ x ∧ x ≠ 60 ∧ (b < 256 → x < 127) := by
  have h1 := hexDigit_range (b / 16)
  have h2 := hexDigit_range (b % 16)
  simp only [backslashX, List.mem_cons, List.not_mem_nil, or_false] at hx
  rcases hx with rfl | rfl | rfl | rfl <;> omega

theorem escBytes_range {bs : List Nat} (h : ∀ b ∈ bs, b < 256) : ∀ x ∈ escBytes bs, 48 ≤ x ∧ x < 127 := by
  intro x hx
  obtain ⟨b, hb, hx⟩ := List.mem_flatMap.1 hx
  exact ⟨(backslashX_range hx).1, (backslashX_range hx).2.2 (h b hb)⟩

/-! ### The plain XML reporter -/

theorem escape_cons (b : Nat) (s : List Nat) : escape (b :: s) = escByte b ++ escape s := List.flatMap_cons
theorem translit_cons (b : Nat) (s : List Nat) : translit (b :: s) = translitByte b ++ translit s := List.flatMap_cons

theorem translit_of_not_forbidden {s : List Nat} (h : ∀ b ∈ s, forbidden b = false) : translit s = s := by
  induction s with
  | nil => rfl
  | cons b s ih =>
    obtain ⟨hb, hs⟩ := List.forall_mem_cons.1 h
    rw [translit_cons, ih hs, translitByte, hb]; rfl

/-- A byte that stands for itself in an attribute value: the test of `attrOk`'s last equation. -/
def plain (b : Nat) : Bool := b != 38 && b != 34 && b != 60 && !forbidden b

theorem plain_of_range {x : Nat} (h : 48 ≤ x) (h' : x ≠ 60) : plain x = true := by
  simp [plain, forbidden]; omega

/- The last equation of `decode` and of `attrOk` is the one that applies: all others start with `&`. -/
theorem decode_cons_ne {b : Nat} (r : List Nat) (h : b ≠ 38) : decode (b :: r) = b :: decode r := by
  rw [decode] <;> exact fun _ e => absurd e h

theorem attrOk_cons_ne {b : Nat} (r : List Nat) (h : b ≠ 38) : attrOk (b :: r) = (plain b && attrOk r) := by
  rw [attrOk, plain] <;> exact fun _ e => absurd e h

theorem plain_append {l : List Nat} (r : List Nat) (h : ∀ x ∈ l, plain x = true) :
    decode (l ++ r) = l ++ decode r ∧ attrOk (l ++ r) = attrOk r := by
  induction l with
  | nil => exact ⟨rfl, rfl⟩
  | cons x l ih =>
    obtain ⟨hx, hl⟩ := List.forall_mem_cons.1 h
    have : x ≠ 38 := by simp [plain] at hx; exact hx.1.1.1
    rw [List.cons_append, decode_cons_ne _ this, attrOk_cons_ne _ this, hx, (ih hl).1, (ih hl).2]
    exact ⟨rfl, rfl⟩

/-- A byte without an entity of its own is escaped as `translit` spells it, in plain bytes. -/
theorem escByte_plain {b : Nat} (h : b ∉ [34, 38, 60, 62, 39]) :
    escByte b = translitByte b ∧ ∀ x ∈ translitByte b, plain x = true := by
  simp only [List.mem_cons, List.not_mem_nil, or_false, not_or] at h
  refine ⟨by simp [escByte, translitByte, h], ?_⟩
  unfold translitByte
  split
  · exact fun x hx => plain_of_range (backslashX_range hx).1 (backslashX_range hx).2.1
  · simp_all [plain]

theorem escByte_spec (b : Nat) (r : List Nat) :
    decode (escByte b ++ r) = translitByte b ++ decode r ∧ attrOk (escByte b ++ r) = attrOk r := by
  by_cases h : b ∈ [34, 38, 60, 62, 39]
  · simp only [List.mem_cons, List.not_mem_nil, or_false] at h
    rcases h with rfl | rfl | rfl | rfl | rfl <;> exact ⟨rfl, rfl⟩
  · rw [(escByte_plain h).1]
    exact plain_append r (escByte_plain h).2

theorem decode_escape (s : List Nat) : decode (escape s) = translit s := by
  induction s with
  | nil => rfl
  | cons b s ih => rw [escape_cons, translit_cons, (escByte_spec b _).1, ih]

theorem attrOk_escape (s : List Nat) : attrOk (escape s) = true := by
  induction s with
  | nil => rfl
  | cons b s ih => rw [escape_cons, (escByte_spec b _).2, ih]

/-! ### How long the escaped text can get -/

theorem escByte_length_le (b : Nat) : (escByte b).length ≤ 6 := by
  by_cases h : b ∈ [34, 38, 60, 62, 39]
  · simp only [List.mem_cons, List.not_mem_nil, or_false] at h
    rcases h with rfl | rfl | rfl | rfl | rfl <;> decide
  · rw [(escByte_plain h).1, translitByte]
    split <;> simp [backslashX]

theorem flatMap_length_le {α β : Type} (f : α → List β) (k : Nat) (h : ∀ a, (f a).length ≤ k) :
    ∀ s : List α, (s.flatMap f).length ≤ k * s.length
  | [] => by simp
  | a :: s => by
    have := flatMap_length_le f k h s
    have := h a
    simp only [List.flatMap_cons, List.length_append, List.length_cons, Nat.mul_succ]
    omega

theorem escape_length_le (s : List Nat) : (escape s).length ≤ 6 * s.length :=
  flatMap_length_le escByte 6 escByte_length_le s

/-! ### UTF-8: what `headSeq` accepts, and what `encodeUTF8` writes

Both are compared with `Seq`, the shape of a UTF-8 sequence in terms of the payloads of its bytes. Between bytes and payloads the
arithmetic is `% 32`, `% 16`, `% 8`, `% 64` of a byte that is a multiple of that number plus the payload (`Nat.mul_add_mod_of_lt`);
between payloads and value it is that of base-64 digits, once `/ 4096` and `/ 262144` are read as repeated `/ 64`. -/

theorem mod_lt64 (x : Nat) : x % 64 < 64 := Nat.mod_lt x (by decide)

theorem cont_payload {q : Nat} (h : q < 64) : (128 ≤ 128 + q ∧ 128 + q < 192) ∧ (128 + q) % 64 = q :=
  ⟨⟨Nat.le_add_right .., Nat.add_lt_add_left h 128⟩, Nat.mul_add_mod_of_lt (a := 2) h⟩

/-- A continuation byte is `128` plus its payload (`¬¬` is how `getUTF8`'s tests leave the hypothesis). -/
theorem cont_eq {b : Nat} (h : ¬¬(128 ≤ b ∧ b < 192)) : 128 + b % 64 = b := by omega

/-- The quotient beside core's `Nat.mul_add_mod_of_lt`. -/
theorem mul_add_div_of_lt {a b c : Nat} (h : c < b) : (a * b + c) / b = a := by
  rw [Nat.add_comm, Nat.add_mul_div_right _ _ (Nat.zero_lt_of_lt h), Nat.div_eq_of_lt h, Nat.zero_add]

theorem div4096 (c : Nat) : c / 4096 = c / 64 / 64 := (Nat.div_div_eq_div_mul c 64 64).symm
theorem div262144 (c : Nat) : c / 262144 = c / 64 / 64 / 64 := by
  rw [Nat.div_div_eq_div_mul, Nat.div_div_eq_div_mul]

theorem digits3 (c : Nat) : (c / 4096 * 64 + c / 64 % 64) * 64 + c % 64 = c := by
  rw [div4096, Nat.div_add_mod', Nat.div_add_mod']
theorem digits4 (c : Nat) : ((c / 262144 * 64 + c / 4096 % 64) * 64 + c / 64 % 64) * 64 + c % 64 = c := by
  rw [div262144, div4096, Nat.div_add_mod', Nat.div_add_mod', Nat.div_add_mod']

/-- `Seq s u l`: `s` starts with a UTF-8 sequence of `l` bytes for the value `u` - lead byte `110ppppp`, `1110pppp` or
`11110ppp` and continuation bytes `10qqqqqq`. Overlong forms, surrogates and values above 0x10FFFF are sequences too. -/
inductive Seq : List Nat → Nat → Nat → Prop
  | one {c r} : c < 128 → Seq (c :: r) c 1
  | two {p q r} : p < 32 → q < 64 → Seq ((192 + p) :: (128 + q) :: r) (p * 64 + q) 2
  | three {p q1 q2 r} : p < 16 → q1 < 64 → q2 < 64 →
      Seq ((224 + p) :: (128 + q1) :: (128 + q2) :: r) ((p * 64 + q1) * 64 + q2) 3
  | four {p q1 q2 q3 r} : p < 8 → q1 < 64 → q2 < 64 → q3 < 64 →
      Seq ((240 + p) :: (128 + q1) :: (128 + q2) :: (128 + q3) :: r) (((p * 64 + q1) * 64 + q2) * 64 + q3) 4

theorem headSeq_eq_some {s : List Nat} {p : Nat × Nat} :
    headSeq s = some p ↔ (∀ c ∈ s.head?, ¬ (128 ≤ c ∧ c < 192)) ∧ getUTF8 s = some p := by
  cases s with
  | nil => simp [headSeq, getUTF8]
  | cons => simp [headSeq]

theorem Seq.of_headSeq {s : List Nat} {u l : Nat} : headSeq s = some (u, l) → Seq s u l := by
  rw [headSeq_eq_some]
  fun_cases getUTF8 s <;> intro ⟨hc, h⟩ <;> cases h
  next h => exact .one h
  next c _ b1 r h1 _ =>
    have := hc c rfl
    have := Seq.two (r := r) (Nat.mod_lt c (by decide)) (mod_lt64 b1)
    rwa [show 192 + c % 32 = c by omega, cont_eq h1] at this
  next c _ b1 h1 _ b2 r h2 _ =>
    have := Seq.three (r := r) (Nat.mod_lt c (by decide)) (mod_lt64 b1) (mod_lt64 b2)
    rwa [show 224 + c % 16 = c by omega, cont_eq h1, cont_eq h2, Nat.add_mul, Nat.mul_assoc] at this
  next c _ b1 h1 _ b2 h2 _ b3 r h3 =>
    have := Seq.four (r := r) (Nat.mod_lt c (by decide)) (mod_lt64 b1) (mod_lt64 b2) (mod_lt64 b3)
    simp only [Nat.add_mul, Nat.mul_assoc] at this
    rwa [show 240 + c % 8 = c by omega, cont_eq h1, cont_eq h2, cont_eq (by omega)] at this

theorem Seq.headSeq_eq {s : List Nat} {u l : Nat} (h : Seq s u l) : headSeq s = some (u, l) := by
  rw [headSeq_eq_some]
  cases h with
  | one h => simp [getUTF8, h]; omega
  | two hp hq => simp (disch := omega) [getUTF8, cont_payload, Nat.mul_add_mod_of_lt (a := 6) hp, if_pos, if_neg]
  | three hp h1 h2 =>
    simp (disch := omega) [getUTF8, cont_payload, Nat.mul_add_mod_of_lt (a := 14) hp, if_pos, if_neg, Nat.add_mul, Nat.mul_assoc]
    omega
  | four hp h1 h2 h3 =>
    simp (disch := omega) [getUTF8, cont_payload, Nat.mul_add_mod_of_lt (a := 30) hp, if_neg, Nat.add_mul, Nat.mul_assoc]
    omega

theorem headSeq_pos {s : List Nat} {u l : Nat} (h : headSeq s = some (u, l)) : 0 < l := by
  cases Seq.of_headSeq h <;> decide

/-- The bytes of a sequence that is not overlong are the encoding of its value. -/
theorem Seq.bytes {s : List Nat} {u l : Nat} (h : Seq s u l) (ho : overlong u l = false) : s.take l = encodeUTF8 u := by
  cases h with
  | one h => simp [encodeUTF8, h]
  | two hp hq =>
    simp [overlong] at ho
    rw [encodeUTF8, if_neg (by omega), if_pos (by omega), mul_add_div_of_lt hq, Nat.mul_add_mod_of_lt hq]; rfl
  | three hp h1 h2 =>
    simp [overlong] at ho
    rw [encodeUTF8, if_neg (by omega), if_neg (by omega), if_pos (by omega), div4096, mul_add_div_of_lt h2, mul_add_div_of_lt h1,
      Nat.mul_add_mod_of_lt h1, Nat.mul_add_mod_of_lt h2]; rfl
  | four hp h1 h2 h3 =>
    simp [overlong] at ho
    rw [encodeUTF8, if_neg (by omega), if_neg (by omega), if_neg (by omega), div262144, div4096, mul_add_div_of_lt h3,
      mul_add_div_of_lt h2, mul_add_div_of_lt h1, Nat.mul_add_mod_of_lt h1, Nat.mul_add_mod_of_lt h2, Nat.mul_add_mod_of_lt h3]; rfl

theorem headSeq_bytes {s : List Nat} {u l : Nat} (h : headSeq s = some (u, l)) (ho : overlong u l = false) :
    s.take l = encodeUTF8 u := (Seq.of_headSeq h).bytes ho

/-- The encoding of a value is a sequence for that value. -/
theorem encode_seq (c : Nat) (t : List Nat) (h : c < 0x110000) : Seq (encodeUTF8 c ++ t) c (encodeUTF8 c).length := by
  fun_cases encodeUTF8 c
  next h1 => exact .one h1
  next _ h2 =>
    have := Seq.two (r := t) (p := c / 64) (Nat.div_lt_of_lt_mul h2) (mod_lt64 c)
    rwa [Nat.div_add_mod'] at this
  next _ _ h3 =>
    have := Seq.three (r := t) (p := c / 4096) (Nat.div_lt_of_lt_mul h3) (mod_lt64 (c / 64)) (mod_lt64 c)
    rwa [digits3] at this
  next =>
    have := Seq.four (r := t) (p := c / 262144) (by omega) (mod_lt64 (c / 4096)) (mod_lt64 (c / 64)) (mod_lt64 c)
    rwa [digits4] at this

theorem headSeq_encode (c : Nat) (t : List Nat) (h : c < 0x110000) :
    headSeq (encodeUTF8 c ++ t) = some (c, (encodeUTF8 c).length) := (encode_seq c t h).headSeq_eq

theorem getUTF8_encode (c : Nat) (t : List Nat) (h : c < 0x110000) :
    getUTF8 (encodeUTF8 c ++ t) = some (c, (encodeUTF8 c).length) := (headSeq_eq_some.1 (headSeq_encode c t h)).2

theorem encode_not_overlong (c : Nat) (h : c < 0x110000) : overlong c (encodeUTF8 c).length = false := by
  fun_cases encodeUTF8 c <;> simp [overlong] <;> omega

theorem ascii_flatMap {l : List Nat} (h : ∀ b ∈ l, b < 128) : l.flatMap encodeUTF8 = l := by
  induction l with
  | nil => rfl
  | cons b l ih =>
    obtain ⟨hb, hl⟩ := List.forall_mem_cons.1 h
    rw [List.flatMap_cons, ih hl, encodeUTF8, if_pos hb]; rfl

/-! ### The libxml2 reporter's escaping loop -/

theorem nonRestricted_xmlChar (c : Nat) (h : nonRestricted c = true) : xmlChar c = true ∧ c < 0x110000 := by
  simp only [nonRestricted, xmlChar, inR, Bool.or_eq_true, Bool.and_eq_true, beq_iff_eq, decide_eq_true_eq] at *
  grind       -- each of the 24 ranges lies in one of the 6; `omega` needs twice as long even range by range

theorem xmlChar_of_range {x : Nat} (h : 48 ≤ x ∧ x < 127) : xmlChar x = true := by
  simp only [xmlChar, inR, Bool.or_eq_true, Bool.and_eq_true, beq_iff_eq, decide_eq_true_eq]; omega

theorem escapePropF_allowed : ∀ (fuel : Nat) (s : List Nat), (∀ b ∈ s, b < 256) → ∀ c ∈ escapePropF fuel s, xmlChar c = true := by
  intro fuel s
  fun_induction escapePropF fuel s <;> intro hs
  case case1 | case2 => simp
  case case3 u l _ hok ih =>
    simp only [Bool.and_eq_true] at hok
    exact List.forall_mem_cons.2 ⟨(nonRestricted_xmlChar u hok.2).1, ih fun x hx => hs x (List.mem_of_mem_drop hx)⟩
  case case4 ih =>
    exact List.forall_mem_append.2 ⟨fun x hx => xmlChar_of_range (escBytes_range (fun b hb => hs b (List.mem_of_mem_take hb)) x hx),
      ih fun x hx => hs x (List.mem_of_mem_drop hx)⟩
  case case5 c _ _ ih =>
    exact List.forall_mem_append.2 ⟨fun x hx => xmlChar_of_range ⟨(backslashX_range hx).1, (backslashX_range hx).2.2 (hs c List.mem_cons_self)⟩,
      ih fun x hx => hs x (List.mem_cons_of_mem _ hx)⟩

theorem escapePropF_stable : ∀ (n : Nat) (s : List Nat) (fuel : Nat), s.length ≤ n → n ≤ fuel → escapePropF fuel s = escapePropF n s := by
  intro n
  induction n with
  | zero =>
    intro s fuel hs _
    rw [List.length_eq_zero_iff.1 (Nat.le_zero.1 hs)]
    cases fuel <;> rfl
  | succ n ih =>
    intro s fuel hs hf
    obtain ⟨f, rfl⟩ : ∃ f, fuel = f + 1 := ⟨fuel - 1, by omega⟩
    cases s with
    | nil => rfl
    | cons b rest =>
      simp only [escapePropF]
      split
      next _ len hg =>
        have := headSeq_pos hg
        rw [ih _ f (by simp only [List.length_drop, List.length_cons] at hs ⊢; omega) (by omega)]
      next => rw [ih _ f (by simpa using hs) (by omega)]

theorem escapePropF_some {s : List Nat} {u l : Nat} (fuel : Nat) (h : headSeq s = some (u, l)) :
    escapePropF (fuel + 1) s = if !overlong u l && nonRestricted u then u :: escapePropF fuel (s.drop l)
      else escBytes (s.take l) ++ escapePropF fuel (s.drop l) := by
  cases s with
  | nil => cases h
  | cons => simp only [escapePropF, h]

theorem escapePropF_encode : ∀ (cps : List Nat) (fuel : Nat), (∀ c ∈ cps, nonRestricted c = true) →
    (cps.flatMap encodeUTF8).length ≤ fuel → escapePropF fuel (cps.flatMap encodeUTF8) = cps := by
  intro cps
  induction cps with
  | nil => intro fuel _ _; cases fuel <;> rfl
  | cons c cs ih =>
    intro fuel hall hlen
    obtain ⟨hc, hcs⟩ := List.forall_mem_cons.1 hall
    have hg := headSeq_encode c (cs.flatMap encodeUTF8) (nonRestricted_xmlChar c hc).2
    have := headSeq_pos hg
    rw [List.flatMap_cons, List.length_append] at hlen
    obtain ⟨f, rfl⟩ : ∃ f, fuel = f + 1 := ⟨fuel - 1, by omega⟩
    rw [List.flatMap_cons, escapePropF_some f hg, encode_not_overlong c (nonRestricted_xmlChar c hc).2, hc, List.drop_left,
      ih f hcs (by omega)]
    rfl

/-- The bytes handed to libxml2 are the UTF-8 encoding of the characters of `escapePropF`. -/
theorem escapePropBytesF_eq : ∀ (fuel : Nat) (s : List Nat), (∀ b ∈ s, b < 256) →
    escapePropBytesF fuel s = (escapePropF fuel s).flatMap encodeUTF8 := by
  intro fuel s
  fun_induction escapePropF fuel s <;> intro hs
  case case1 => rfl
  case case2 t _ => cases t <;> rfl
  case case3 u l hg hok ih =>
    simp only [escapePropBytesF, hg, if_pos hok]
    simp only [Bool.and_eq_true, Bool.not_eq_true'] at hok
    rw [List.flatMap_cons, ← ih fun x hx => hs x (List.mem_of_mem_drop hx), headSeq_bytes hg hok.1]
  case case4 hg hok ih =>
    simp only [escapePropBytesF, hg, if_neg hok]
    rw [List.flatMap_append, ← ih fun x hx => hs x (List.mem_of_mem_drop hx),
      ascii_flatMap fun x hx => Nat.lt_trans (escBytes_range (fun b hb => hs b (List.mem_of_mem_take hb)) x hx).2 (by decide)]
  case case5 c _ hg ih =>
    simp only [escapePropBytesF, hg]
    rw [List.flatMap_append, ← ih fun x hx => hs x (List.mem_cons_of_mem _ hx),
      ascii_flatMap fun x hx => Nat.lt_trans ((backslashX_range hx).2.2 (hs c List.mem_cons_self)) (by decide)]

end Cgreen.Xml
