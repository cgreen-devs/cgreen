import CgreenModel.Model.Lines
/-! Helper lemmas about reading a stream line by line in pieces. -/
namespace Cgreen.Lines
open Cgreen.Sel

theorem first_after (s : Str) : firstLine s ++ afterLine s = s := by
  induction s with
  | nil => rfl
  | cons c s ih => by_cases h : c = '\n' <;> simp [firstLine, afterLine, h, ih]

/-- `fgets` hands out the next piece of the first line. -/
theorem fgetsGo_eq (k : Nat) (s : Str) :
    fgetsGo k s = ((firstLine s).take k, (firstLine s).drop k ++ afterLine s) := by
  induction k generalizing s with
  | zero => simp [fgetsGo, first_after]
  | succ k ih =>
    cases s with
    | nil => simp [fgetsGo, firstLine, afterLine]
    | cons c s => by_cases h : c = '\n' <;> simp [fgetsGo, firstLine, afterLine, h, ih]

/-- The first line is complete: it ends in a line feed or the stream ends with it. -/
theorem firstLine_complete (s : Str) : (firstLine s).getLast? = some '\n' ∨ afterLine s = [] := by
  induction s with
  | nil => exact .inr rfl
  | cons c s ih =>
    by_cases hc : c = '\n'
    · simp [firstLine, hc]
    · simp only [firstLine, afterLine, hc, if_false]
      exact ih.imp_left fun h => by rw [List.getLast?_cons, h]; rfl

/-- In the middle of the first line there has been no line feed yet, and the first line of what is left is
what is left of the first line. -/
theorem firstLine_mid (s : Str) (n : Nat) (h : n < (firstLine s).length) :
    '\n' ∉ (firstLine s).take n ∧
    firstLine ((firstLine s).drop n ++ afterLine s) = (firstLine s).drop n ∧
    afterLine ((firstLine s).drop n ++ afterLine s) = afterLine s := by
  induction n generalizing s with
  | zero => simp [first_after]
  | succ n ih =>
    cases s with
    | nil => simp [firstLine] at h
    | cons c s =>
      by_cases hc : c = '\n'
      · simp [firstLine, hc] at h
      · simp only [firstLine, hc, if_false, List.length_cons, Nat.add_lt_add_iff_right] at h
        simpa [firstLine, afterLine, hc, Ne.symm hc] using ih s h

theorem firstLine_length_le (s : Str) : (firstLine s).length ≤ s.length := by
  have := congrArg List.length (first_after s)
  simp at this; omega

theorem firstLine_pos (s : Str) (h : s ≠ []) : 0 < (firstLine s).length := by
  cases s with
  | nil => exact absurd rfl h
  | cons c s => by_cases hc : c = '\n' <;> simp [firstLine, hc]

theorem afterLine_length_lt (s : Str) (h : s ≠ []) : (afterLine s).length < s.length := by
  have := congrArg List.length (first_after s)
  have := firstLine_pos s h
  simp at *; omega

/-- `read_line` with room for `k` characters, before the end of the stream. -/
theorem readLine_eq (k : Nat) (s : Str) (hk : k ≠ 0) (hs : s ≠ []) :
    readLine (k + 1) s = some ((firstLine s).take k, (firstLine s).drop k ++ afterLine s) := by
  simp [readLine, hk, hs, fgetsGo_eq]

/-- The loop of `read_whole_line` stops at a complete line. -/
theorem grow_complete (fuel : Nat) (line : Str) (size : Nat) (rest : Str) (safe : Bool)
    (h : line.getLast? = some '\n' ∨ rest = []) :
    ∃ size', size ≤ size' ∧ grow fuel line size rest safe = ⟨some line, size', rest, safe⟩ := by
  cases fuel with
  | zero => exact ⟨size, Nat.le_refl _, rfl⟩
  | succ fuel =>
    rw [grow]
    split
    · next hc =>
      obtain rfl : rest = [] := h.resolve_left hc.2
      have : readLine (size + 1) [] = none := by simp [readLine]; omega
      exact ⟨size * 2, by omega, by rw [this]⟩
    · exact ⟨size, Nat.le_refl _, rfl⟩

/-- One turn of the loop: the buffer is full and the line goes on. The doubled buffer has room for the next piece. -/
theorem grow_step (fuel : Nat) (line : Str) (size : Nat) (rest : Str) (safe : Bool) (chunk rest' : Str)
    (hfull : line.length + 2 = size) (hnl : line.getLast? ≠ some '\n')
    (hread : readLine (size + 1) rest = some (chunk, rest')) :
    grow (fuel + 1) line size rest safe = grow fuel (line ++ chunk) (size * 2) rest' safe := by
  rw [grow, if_pos ⟨hfull, hnl⟩, hread]
  simp only []
  rw [decide_eq_true (by omega), Bool.and_true]

/-- The loop of `read_whole_line`, started after `n` characters of the first line of `s` (all of it, if `n` is more). -/
theorem grow_spec (s : Str) (fuel n size : Nat) (safe : Bool) (hsz : n + 2 ≤ size)
    (hshort : n + 2 < size → (firstLine s).length ≤ n) (hfuel : (firstLine s).length - n < fuel) :
    ∃ size', size ≤ size' ∧ (firstLine s).length + 2 ≤ size' ∧
      grow fuel ((firstLine s).take n) size ((firstLine s).drop n ++ afterLine s) safe
        = ⟨some (firstLine s), size', afterLine s, safe⟩ := by
  induction fuel generalizing n size safe with
  | zero => exact absurd hfuel (Nat.not_lt_zero _)
  | succ fuel ih =>
    by_cases hn : (firstLine s).length ≤ n
    · -- the whole line has been read
      rw [List.take_of_length_le hn, List.drop_of_length_le hn]
      obtain ⟨size', h1, h2⟩ := grow_complete (fuel + 1) _ size _ safe (firstLine_complete s)
      exact ⟨size', h1, by omega, h2⟩
    · -- in the middle of the line the buffer is full: one more turn, with `n + size` characters read
      have hlt : n < (firstLine s).length := Nat.lt_of_not_le hn
      obtain rfl : n + 2 = size := Nat.le_antisymm hsz (Nat.le_of_not_lt fun h => hn (hshort h))
      obtain ⟨hnl, hf, ha⟩ := firstLine_mid s n hlt
      have hne : (firstLine s).drop n ++ afterLine s ≠ [] :=
        List.append_ne_nil_of_left_ne_nil (mt List.drop_eq_nil_iff.mp hn) _
      have hfuel' : (firstLine s).length - (n + (n + 2)) < fuel :=
        Nat.lt_of_lt_of_le (Nat.sub_lt_sub_left hlt (by omega)) (Nat.le_of_lt_succ hfuel)
      obtain ⟨size', h1, h2, h3⟩ := ih (n + (n + 2)) ((n + 2) * 2) safe (by omega) (by omega) hfuel'
      refine ⟨size', by omega, h2, ?_⟩
      rw [← h3, List.take_add, ← List.drop_drop]
      refine grow_step fuel _ _ _ safe _ _ ?_ (fun h => hnl (List.mem_of_getLast? h)) ?_
      · rw [List.length_take_of_le (Nat.le_of_lt hlt)]
      · rw [readLine_eq _ _ (Nat.succ_ne_zero _) hne, hf, ha]

/-- `read_whole_line` returns the first line of the stream, whole and alone, whatever its length and the
size of the buffer, and stays inside the buffer. -/
theorem readWholeLine_spec (size : Nat) (s : Str) (hs : s ≠ []) (hsize : 3 ≤ size) :
    ∃ size', size ≤ size' ∧ (firstLine s).length + 2 ≤ size' ∧
      readWholeLine size s = ⟨some (firstLine s), size', afterLine s, true⟩ :=
  match size, hsize with
  | k + 3, _ => by
    simp only [readWholeLine, show k + 3 - 1 = k + 1 + 1 from rfl, readLine_eq (k + 1) s (Nat.succ_ne_zero k) hs,
      Nat.le_succ, decide_true]
    exact grow_spec s _ (k + 1) (k + 3) true (Nat.le_refl _) (fun h => absurd h (Nat.lt_irrefl _)) (by simp; omega)

theorem readWholeLine_nil : ∀ size, 3 ≤ size → readWholeLine size [] = ⟨none, size, [], true⟩
  | _ + 3, _ => rfl

theorem splitLines_cons (s : Str) (h : s ≠ []) : splitLines s = firstLine s :: splitLines (afterLine s) := by
  induction s with
  | nil => exact absurd rfl h
  | cons c s ih =>
    by_cases hc : c = '\n'
    · simp [splitLines, firstLine, afterLine, hc]
    · by_cases hs : s = []
      · simp [splitLines, firstLine, afterLine, hc, hs]
      · simp only [splitLines, firstLine, afterLine, hc, if_false, ih hs]

/-- Reading until the end of the stream yields the stream cut at its line feeds. -/
theorem allLines_spec (fuel size : Nat) (s : Str) (hsize : 3 ≤ size) (hfuel : s.length < fuel) :
    allLines fuel size s = (splitLines s, true) := by
  induction fuel generalizing size s with
  | zero => exact absurd hfuel (Nat.not_lt_zero _)
  | succ fuel ih =>
    by_cases hs : s = []
    · subst hs
      simp only [allLines, readWholeLine_nil size hsize, splitLines]
    · obtain ⟨size', h1, _, h3⟩ := readWholeLine_spec size s hs hsize
      have hlt := afterLine_length_lt s hs
      simp only [allLines, h3, ih size' (afterLine s) (by omega) (by omega), splitLines_cons s hs, Bool.and_self]

/-! ### Finding a pattern in a line -/

theorem isPrefixOf_snoc (a : Char) (pat x : Str) (h : a ∉ pat) : pat.isPrefixOf (x ++ [a]) = pat.isPrefixOf x := by
  rw [Bool.eq_iff_iff, List.isPrefixOf_iff_prefix, List.isPrefixOf_iff_prefix, List.prefix_concat_iff]
  exact or_iff_right fun e => h (e ▸ List.mem_append_right x (List.mem_singleton_self a))

/-- A character that is not in the pattern, put at the end, changes nothing but the end of what is found. -/
theorem findSub_snoc (a : Char) (pat : Str) (ha : a ∉ pat) (x : Str) :
    findSub pat (x ++ [a]) = (findSub pat x).map (· ++ [a]) := by
  induction x with
  | nil =>
    have := isPrefixOf_snoc a pat [] ha
    cases pat <;> simp_all [findSub]
  | cons y ys ih =>
    rw [List.cons_append, findSub, ← List.cons_append, isPrefixOf_snoc a pat (y :: ys) ha, ih, findSub]
    split <;> rfl

theorem findSub_of_prefix (pat s : Str) (h : pat <+: s) : findSub pat s = some s := by
  cases s with
  | nil => simp [findSub, List.prefix_nil.mp h]
  | cons c s => simp [findSub, h]

/-- The first occurrence of a pattern is not before the first occurrence of its first character. -/
theorem findSub_skip (pat t pre : Str) (p : Char) (hp : pat.head? = some p) (h : p ∉ pre) :
    findSub pat (pre ++ pat ++ t) = some (pat ++ t) := by
  induction pre with
  | nil => exact findSub_of_prefix _ _ (List.prefix_append _ _)
  | cons c pre ih =>
    rw [List.mem_cons, not_or] at h
    obtain ⟨ps, rfl⟩ := List.head?_eq_some_iff.mp hp
    simpa [findSub, h.1] using ih h.2

theorem findSub_exists (a pat b : Str) : (findSub pat (a ++ pat ++ b)).isSome = true := by
  induction a with
  | nil => rw [List.nil_append, findSub_of_prefix _ _ (List.prefix_append _ _)]; rfl
  | cons c a ih =>
    rw [List.cons_append, List.cons_append, findSub]
    split
    · rfl
    · exact ih

theorem splitLines_line (l t : Str) (h : '\n' ∉ l) : splitLines (l ++ '\n' :: t) = (l ++ ['\n']) :: splitLines t := by
  induction l with
  | nil => simp [splitLines]
  | cons c l ih =>
    rw [List.mem_cons, not_or] at h
    simp only [List.cons_append, splitLines, Ne.symm h.1, if_false, ih h.2]

theorem stripNewline_snoc (l : Str) : stripNewline (l ++ ['\n']) = l := by simp [stripNewline]

theorem newline_not_mem_prefixSpec : '\n' ∉ prefixSpec := by decide +kernel
theorem newline_not_mem_definitionMark : '\n' ∉ definitionMark := by decide +kernel

/-- A line with its line feed: the symbol is the one found in the line without it, provided the line has a ` D `. -/
theorem specOfLine_newline (l : Str) :
    specOfLine (l ++ ['\n']) = if (findSub definitionMark l).isSome then findSub prefixSpec l else none := by
  simp only [specOfLine, stripNewline_snoc, findSub_snoc '\n' _ newline_not_mem_prefixSpec,
    findSub_snoc '\n' _ newline_not_mem_definitionMark]
  cases findSub prefixSpec l <;> cases findSub definitionMark l <;> rfl

/-- Behind text without a `C` the specification symbol is found whole. -/
theorem findSub_specSymbol (pre : Str) (i : Item) (h : 'C' ∉ pre) :
    findSub prefixSpec (pre ++ specSymbol i) = some (specSymbol i) := by
  simpa only [specSymbol, List.append_assoc]
    using findSub_skip prefixSpec (i.ctx ++ sep ++ i.name ++ sep) pre 'C' (by decide +kernel) h

end Cgreen.Lines
