import CgreenModel.Model.Mocks
/-! Lemmas about the mock queue. Every queue operation of `mocks.c` that concerns `f` commutes with the projection onto `f`
(`…_proj_same`) and is invisible to the projection onto any other function (`…_proj_other`); hence `call_refines` and
`declare_refines`. The second part reads a call, and a list of calls, off the head of the function's own FIFO
(`call_proj_cons`, `calls_served`). -/
namespace Cgreen.Mocks

theorem proj_nil (g : Nat) : proj g [] = [] := rfl

theorem proj_cons (g : Nat) (e : Exp) (q : List Exp) :
    proj g (e :: q) = if e.fn = g then e :: proj g q else proj g q := by
  simp [proj, List.filter_cons]

theorem findExp_cons (f : Nat) (e : Exp) (q : List Exp) :
    findExp f (e :: q) = if e.fn = f then some e else findExp f q := by
  by_cases h : e.fn = f <;> simp [findExp, h]

theorem modifyFirst_cons (f : Nat) (u : Exp → Exp) (e : Exp) (q : List Exp) :
    modifyFirst f u (e :: q) = if e.fn = f then u e :: q else e :: modifyFirst f u q := by
  simp [modifyFirst]

theorem removeFirst_cons (f : Nat) (e : Exp) (q : List Exp) :
    removeFirst f (e :: q) = if e.fn = f then q else e :: removeFirst f q := by
  simp [removeFirst]

theorem proj_append (g : Nat) (q q' : List Exp) : proj g (q ++ q') = proj g q ++ proj g q' :=
  List.filter_append ..

theorem proj_proj (f : Nat) (q : List Exp) : proj f (proj f q) = proj f q := by
  simp [proj, List.filter_filter]

theorem findExp_head (f : Nat) (q : List Exp) : findExp f q = (proj f q).head? :=
  List.head?_filter.symm

theorem findExp_proj (f : Nat) (q : List Exp) : findExp f (proj f q) = findExp f q := by
  rw [findExp_head, proj_proj, findExp_head]

theorem haveAlways_proj (f : Nat) (q : List Exp) : haveAlways f (proj f q) = haveAlways f q := by
  simp [haveAlways, proj, List.any_filter]

theorem haveNever_proj (f : Nat) (q : List Exp) : haveNever f (proj f q) = haveNever f q := by
  simp [haveNever, proj, List.any_filter]

theorem removeNever_proj_same (f : Nat) (q : List Exp) : proj f (removeNever f q) = removeNever f (proj f q) := by
  simp only [proj, removeNever, List.filter_filter, Bool.and_comm]

theorem removeNever_proj_other (f g : Nat) (hg : g ≠ f) (q : List Exp) : proj g (removeNever f q) = proj g q := by
  simp only [proj, removeNever, List.filter_filter]
  apply List.filter_congr
  intro e _
  by_cases h : e.fn = g <;> simp [h, hg]

theorem modifyFirst_proj_same (f : Nat) (u : Exp → Exp) (hu : ∀ e, (u e).fn = e.fn) (q : List Exp) :
    proj f (modifyFirst f u q) = modifyFirst f u (proj f q) := by
  induction q with
  | nil => rfl
  | cons e q ih => by_cases h : e.fn = f <;> simp [modifyFirst_cons, proj_cons, h, hu, ih]

theorem modifyFirst_proj_other (f g : Nat) (hg : g ≠ f) (u : Exp → Exp) (hu : ∀ e, (u e).fn = e.fn) (q : List Exp) :
    proj g (modifyFirst f u q) = proj g q := by
  induction q with
  | nil => rfl
  | cons e q ih => by_cases h : e.fn = f <;> simp [modifyFirst_cons, proj_cons, h, hu, Ne.symm hg, ih]

theorem removeFirst_proj_same (f : Nat) (q : List Exp) : proj f (removeFirst f q) = removeFirst f (proj f q) := by
  induction q with
  | nil => rfl
  | cons e q ih => by_cases h : e.fn = f <;> simp [removeFirst_cons, proj_cons, h, ih]

theorem removeFirst_proj_other (f g : Nat) (hg : g ≠ f) (q : List Exp) : proj g (removeFirst f q) = proj g q := by
  induction q with
  | nil => rfl
  | cons e q ih => by_cases h : e.fn = f <;> simp [removeFirst_cons, proj_cons, h, Ne.symm hg, ih]

theorem Exp.isNever_of_isAlways (e : Exp) (h : e.isAlways = true) : e.isNever = false := by
  simp only [isAlways, isNever, UNL, beq_iff_eq, beq_eq_false_iff_ne] at h ⊢; omega

theorem Exp.isAlways_of_isNever (e : Exp) (h : e.isNever = true) : e.isAlways = false := by
  simp only [isAlways, isNever, UNL, beq_iff_eq, beq_eq_false_iff_ne] at h ⊢; omega

/-- An expectation with finitely many uses left is neither an `always_expect` nor a `never_expect`. -/
theorem Exp.ordinary_of_ttl (e : Exp) (h0 : 0 < e.ttl) (h1 : e.ttl < UNL) : e.isAlways = false ∧ e.isNever = false := by
  simp only [isAlways, isNever, UNL, beq_eq_false_iff_ne] at h1 ⊢; omega

theorem Exp.served_fn (b : Bool) (x : Exp) : (Exp.served b x).fn = x.fn := rfl

/-- A call to `f` behaves on the whole queue exactly as on `f`'s own FIFO, and leaves every other
function's FIFO untouched. -/
theorem call_refines (s : MState) (f : Nat) (args : List Int) :
    (call s f args).2 = (call { s with q := proj f s.q } f args).2
    ∧ proj f (call s f args).1.q = (call { s with q := proj f s.q } f args).1.q
    ∧ (∀ g, g ≠ f → proj g (call s f args).1.q = proj g s.q)
    ∧ (call s f args).1.nextId = s.nextId ∧ (call s f args).1.mode = s.mode := by
  unfold call
  rw [findExp_proj]
  split
  · exact ⟨rfl, rfl, fun _ _ => rfl, rfl, rfl⟩
  · split
    · -- a `never_expect`: counted as triggered
      exact ⟨rfl, modifyFirst_proj_same f _ (by intro; rfl) _,
        fun g hg => modifyFirst_proj_other f g hg _ (by intro; rfl) _, rfl, rfl⟩
    · -- served, and removed if that was its last use
      refine ⟨rfl, ?_, fun g hg => ?_, rfl, rfl⟩
      · simp only [apply_ite (proj f), removeFirst_proj_same, modifyFirst_proj_same f _ (Exp.served_fn _)]
      · simp only [apply_ite (proj g), removeFirst_proj_other f g hg,
          modifyFirst_proj_other f g hg _ (Exp.served_fn _), ite_self]

/-- A declaration for `f` likewise. -/
theorem declare_refines (s : MState) (k : Kind) (f : Nat) (r : Int) (c : List Con) :
    (declare s k f r c).2 = (declare { s with q := proj f s.q } k f r c).2
    ∧ proj f (declare s k f r c).1.q = (declare { s with q := proj f s.q } k f r c).1.q
    ∧ (∀ g, g ≠ f → proj g (declare s k f r c).1.q = proj g s.q)
    ∧ (declare s k f r c).1.nextId = s.nextId + 1 ∧ (declare s k f r c).1.mode = s.mode := by
  unfold declare
  rw [haveAlways_proj, haveNever_proj]
  split
  · exact ⟨rfl, rfl, fun _ _ => rfl, rfl, rfl⟩
  · split
    · exact ⟨rfl, removeNever_proj_same f s.q, fun g hg => removeNever_proj_other f g hg s.q, rfl, rfl⟩
    · refine ⟨rfl, ?_, fun g hg => ?_, rfl, rfl⟩
      · rw [proj_append, proj_cons, if_pos rfl, proj_nil]
      · rw [proj_append, proj_cons, if_neg (Ne.symm hg), proj_nil, List.append_nil]

theorem run_append (s : MState) (a b : List Op) :
    run s (a ++ b) = ((run (run s a).1 b).1, (run s a).2 ++ (run (run s a).1 b).2) := by
  induction a generalizing s with
  | nil => rfl
  | cons o a ih => simp only [List.cons_append, run, ih]

end Cgreen.Mocks

/-! ### Calls seen from one function's FIFO -/
namespace Cgreen
open Mocks

theorem proj_mem_fn (f : Nat) (q : List Exp) (e : Exp) (h : e ∈ proj f q) : e.fn = f := by
  simp [proj] at h; exact h.2

/-- A call when `e` is the head of `f`'s FIFO, whatever kind of expectation `e` is. -/
theorem call_proj_cons (s : MState) (f : Nat) (args : List Int) (e : Exp) (rest : List Exp)
    (hq : proj f s.q = e :: rest) :
    (call s f args).2
      = (if e.isNever then [.check (some e.id) false, .ret 0] else reportFor e args ++ [.ret e.ret])
    ∧ proj f (call s f args).1.q
      = (if e.isNever then { e with triggered := e.triggered + 1 } :: rest
         else if !e.isAlways && e.ttl - 1 ≤ 0 then rest else Exp.served (e.unknownParam args) e :: rest) := by
  obtain ⟨h1, h2, _⟩ := call_refines s f args
  obtain rfl : e.fn = f := proj_mem_fn f s.q e (by rw [hq]; exact List.mem_cons_self)
  rw [h1, h2, hq]
  simp only [call, findExp_cons, modifyFirst_cons, removeFirst_cons, Exp.served_fn, ↓reduceIte]
  split
  · exact ⟨rfl, rfl⟩
  · exact ⟨rfl, rfl⟩

/-- A call when the head of `f`'s FIFO is an ordinary expectation `e`: it is checked against `e`'s
clauses (or, if one of them names a parameter the mock does not pass, reported once), returns `e`'s value,
and `e` is consumed when its time to live runs out. -/
theorem call_head (s : MState) (f : Nat) (args : List Int) (e : Exp) (rest : List Exp)
    (hq : proj f s.q = e :: rest) (ha : e.isAlways = false) (hn : e.isNever = false) :
    (call s f args).2 = reportFor e args ++ [.ret e.ret]
    ∧ proj f (call s f args).1.q =
        (if e.ttl - 1 ≤ 0 then rest else Exp.served (e.unknownParam args) e :: rest) := by
  simpa [ha, hn] using call_proj_cons s f args e rest hq

/-- What a call reports against an expectation depends on its serial number and its clauses only. -/
theorem reportFor_congr (e' e : Exp) (a : List Int) (hid : e'.id = e.id) (hcons : e'.cons = e.cons) :
    reportFor e' a = reportFor e a := by
  unfold reportFor checksFor Exp.unknownParam
  rw [hid, hcons]

/-- `calls` performs a list of calls to `f`. -/
def calls (s : MState) (f : Nat) : List (List Int) → MState × List (List Out)
  | [] => (s, [])
  | a :: as => let r := call s f a; let r' := calls r.1 f as; (r'.1, r.2 :: r'.2)

theorem run_map_call (s : MState) (f : Nat) (argss : List (List Int)) :
    run s (argss.map (Op.call f)) = calls s f argss := by
  induction argss generalizing s with
  | nil => rfl
  | cons a as ih => simp only [List.map_cons, run, calls, step, ih]

theorem calls_append (s : MState) (f : Nat) (a b : List (List Int)) :
    calls s f (a ++ b) = ((calls (calls s f a).1 f b).1, (calls s f a).2 ++ (calls (calls s f a).1 f b).2) := by
  simp only [← run_map_call, List.map_append, run_append]

theorem calls_mode (s : MState) (f : Nat) (argss : List (List Int)) : (calls s f argss).1.mode = s.mode := by
  induction argss generalizing s with
  | nil => rfl
  | cons a as ih => rw [calls, ih, (call_refines s f a).2.2.2.2]

/-- A queue that holds expectations for `f` only still does after calls to `f`. -/
theorem calls_proj_self (f : Nat) (argss : List (List Int)) (s : MState) (h : proj f s.q = s.q) :
    proj f (calls s f argss).1.q = (calls s f argss).1.q := by
  induction argss generalizing s with
  | nil => exact h
  | cons a as ih =>
    apply ih
    have h2 := (call_refines s f a).2.1
    rwa [h] at h2

/-- Fewer calls than the head `e` of `f`'s FIFO has uses left: `e` serves them all and stays at the head,
with that many uses less. -/
theorem calls_served (s : MState) (f : Nat) (argss : List (List Int)) (e : Exp) (rest : List Exp)
    (hq : proj f s.q = e :: rest) (hk : (argss.length : Int) < e.ttl) (hU : e.ttl < UNL) :
    (calls s f argss).2 = argss.map (fun a => reportFor e a ++ [.ret e.ret])
    ∧ ∃ e', proj f (calls s f argss).1.q = e' :: rest ∧ e'.ttl = e.ttl - argss.length
        ∧ e'.called = (if e.times.isSome then e.called + argss.length else e.called)
        ∧ e'.times = e.times ∧ e'.id = e.id ∧ e'.ret = e.ret ∧ e'.cons = e.cons := by
  induction argss generalizing s e with
  | nil => exact ⟨rfl, e, hq, by simp⟩
  | cons a as ih =>
    rw [List.length_cons] at hk
    obtain ⟨ha, hn⟩ := e.ordinary_of_ttl (by omega) hU
    obtain ⟨h1, h2⟩ := call_head s f a e rest hq ha hn
    rw [if_neg (by omega)] at h2
    -- the rest of the calls see `e` with one use less
    have httl : (Exp.served (e.unknownParam a) e).ttl = e.ttl - 1 := by simp [Exp.served, ha]
    obtain ⟨i1, e', i2, it, ic, isame⟩ := ih (call s f a).1 _ h2 (by omega) (by omega)
    refine ⟨by rw [calls, h1, i1]; rfl, e', i2, by rw [it, httl, List.length_cons]; omega, ?_, isame⟩
    rw [ic, List.length_cons]
    simp only [Exp.served]
    split <;> omega

/-- What a call to `f` reports depends on `f`'s FIFO and the mock mode only. -/
theorem call_out_congr (s s' : MState) (f : Nat) (a : List Int) (hq : proj f s.q = proj f s'.q) (hm : s.mode = s'.mode) :
    (call s f a).2 = (call s' f a).2 := by
  unfold call
  rw [← findExp_proj f s.q, hq, findExp_proj, hm]
  split
  · rfl
  · split <;> rfl

end Cgreen
