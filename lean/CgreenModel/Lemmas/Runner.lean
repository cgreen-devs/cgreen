import CgreenModel.Model.Runner
/-! Lemmas about the runner model: the reader passes over one test's records, a process never writes a
completion notice before its last record, one test leaves the channel empty; pieces of a run that leave it
empty compose (`Steps`, `Shows`), which gives the refinement theorem `run_spec`. -/
namespace Cgreen

/-! ### The reader -/

/-- What the reader adds to the counters for a block of records that contains no completion notice,
given whether a `skipped` record has already been seen (`sk`). -/
def cntOf : Bool → List Rec → Cnt
  | _, [] => 0
  | sk, .skipped :: q => (if sk then 0 else Rec.skipped.cnt) + cntOf true q
  | sk, r :: q => r.cnt + cntOf sk q

theorem cntOf_eq (sk : Bool) (w : List Rec) :
    cntOf sk w = ⟨(w.filter (· == .pass)).length, (w.filter (· == .fail)).length,
                  (if !sk && w.contains .skipped then 1 else 0), (w.filter (· == .exception)).length⟩ := by
  induction w generalizing sk with
  | nil => simp [cntOf, Cnt.zero_def]
  | cons r w ih =>
    cases r <;> cases sk <;> simp [cntOf, ih, Rec.cnt, Cnt.add_def, Cnt.zero_def] <;> omega

/-- The reader passes over a block of records that holds no completion notice. -/
theorem readResults_append (c : Cnt) (sk : Bool) (w rest : List Rec) (h : Rec.completion ∉ w) :
    readResults c sk (w ++ rest) = readResults (c + cntOf sk w) (sk || w.contains .skipped) rest := by
  induction w generalizing c sk with
  | nil => simp [cntOf]
  | cons r w ih =>
    have hw : Rec.completion ∉ w := fun hm => h (List.mem_cons_of_mem _ hm)
    cases r with
    | completion => exact absurd List.mem_cons_self h
    | skipped => cases sk <;> simp [readResults, cntOf, ih _ _ hw, Cnt.add_assoc]
    | _ => simp [readResults, cntOf, ih _ _ hw, Cnt.add_assoc]

/-! ### Processes -/

/-- A write leaves the process as it is but for `dead`, or appends the record and counts it. -/
theorem Proc.send_eq (cap : Nat) (pr : Proc) (r : Rec) :
    ∃ d, pr.send cap r = { pr with dead := d }
       ∨ pr.send cap r = { pr with pipe := pr.pipe ++ [r], sends := pr.sends + 1, dead := d } := by
  by_cases hd : pr.dead.isSome
  · exact ⟨pr.dead, .inl (by simp [Proc.send, hd])⟩
  by_cases hk : pr.killWrite = some (pr.sends + 1, false)
  · exact ⟨some pr.how, .inl (by simp [Proc.send, hd, hk])⟩
  by_cases hl : pr.pipe.length < cap
  · by_cases ha : pr.killWrite = some (pr.sends + 1, true)
    · exact ⟨some pr.how, .inr (by simp [Proc.send, hd, hl, ha])⟩
    · exact ⟨pr.dead, .inr (by simp [Proc.send, hd, hk, hl, ha])⟩
  · exact ⟨some (.signal 13), .inl (by simp [Proc.send, hd, hk, hl])⟩

theorem Proc.steps_append (cap : Nat) (pr : Proc) (a b : List Step) :
    pr.steps cap (a ++ b) = (pr.steps cap a).steps cap b := by
  induction a generalizing pr with
  | nil => rfl
  | cons s a ih => simp [Proc.steps, ih]

/-- Once the process is dead nothing more happens. -/
theorem steps_dead (cap : Nat) (ss : List Step) (pr : Proc) (hd : pr.dead.isSome = true) : pr.steps cap ss = pr := by
  have hchecks : ∀ l : List Bool, pr.checks cap l = pr := by
    intro l; induction l with
    | nil => rfl
    | cons b l ih => simpa [Proc.checks, Proc.check, hd] using ih
  induction ss with
  | nil => rfl
  | cons s ss ih =>
    have : pr.step cap s = pr := by
      match s with
      | .tallyNow => exact hchecks _
      | .ev _ | .act (.decl _) | .act (.die _) | .act .skip | .act (.check _) => simp [Proc.step, Proc.check, Proc.send, hd]
    simpa [Proc.steps, this] using ih

/-- The completion notice is not written and the process is dead (it was already, its kill plan says so, or the
channel is full), or a live process writes it and may thereby be marked as killed late, by a signal. -/
theorem Proc.sendCompletion_eq (cap : Nat) (pr : Proc) (b : Bool) :
    (∃ d, pr.sendCompletion cap b = { pr with dead := some d })
    ∨ (pr.dead = none ∧ ∃ l, pr.sendCompletion cap b = { pr with pipe := pr.pipe ++ [.completion], sends := pr.sends + 1, late := l }
        ∧ ∀ d, l = some d → d.isSignal = true) := by
  by_cases hd : pr.dead.isSome
  · obtain ⟨d, hd'⟩ := Option.isSome_iff_exists.mp hd
    exact .inl ⟨d, by rw [← hd']; simp [Proc.sendCompletion, hd]⟩
  by_cases hk : pr.killWrite = some (pr.sends + 1, false)
  · exact .inl ⟨pr.how, by simp [Proc.sendCompletion, hd, hk]⟩
  by_cases hroom : pr.pipe.length < cap
  · refine .inr ⟨by simpa using hd, _, by rw [Proc.sendCompletion, if_neg hd, if_neg hk, if_pos hroom], fun d hl => ?_⟩
    split at hl
    · rename_i hsig; cases hl; exact (Bool.and_eq_true _ _ ▸ hsig).2
    · cases hl
  · exact .inl ⟨.signal 13, by simp [Proc.sendCompletion, hd, hk, hroom]⟩

/-- Invariant of a process that runs test code: it has written neither a completion notice nor an
exception record, and it has not been marked as killed late. -/
def Proc.NoCompl (pr : Proc) : Prop := Rec.completion ∉ pr.pipe ∧ Rec.exception ∉ pr.pipe ∧ pr.late = none

theorem Proc.send_noCompl (cap : Nat) (pr : Proc) (r : Rec) (h : pr.NoCompl) (hr : r ≠ .completion ∧ r ≠ .exception) :
    (pr.send cap r).NoCompl := by
  obtain ⟨d, e | e⟩ := pr.send_eq cap r <;> rw [e]
  · exact h
  · exact ⟨by simpa using ⟨h.1, hr.1.symm⟩, by simpa using ⟨h.2.1, hr.2.symm⟩, h.2.2⟩

theorem Proc.check_noCompl (cap : Nat) (pr : Proc) (ok : Bool) (h : pr.NoCompl) : (pr.check cap ok).NoCompl := by
  unfold Proc.check
  split
  · exact h
  · exact Proc.send_noCompl cap _ _ h (by cases ok <;> simp [recOf])

theorem Proc.checks_noCompl (cap : Nat) (pr : Proc) (oks : List Bool) (h : pr.NoCompl) : (pr.checks cap oks).NoCompl := by
  induction oks generalizing pr with
  | nil => exact h
  | cons ok oks ih => exact ih _ (Proc.check_noCompl cap pr ok h)

theorem Proc.step_noCompl (cap : Nat) (pr : Proc) (st : Step) (h : pr.NoCompl) : (pr.step cap st).NoCompl := by
  match st with
  | .tallyNow => exact Proc.checks_noCompl cap pr _ h
  | .act (.check ok) => exact Proc.check_noCompl cap pr ok h
  | .act .skip => exact Proc.send_noCompl cap pr _ h (by simp)
  | .ev _ | .act (.decl _) | .act (.die _) => simp only [Proc.step]; split <;> exact h

theorem Proc.steps_noCompl (cap : Nat) (pr : Proc) (ss : List Step) (h : pr.NoCompl) : (pr.steps cap ss).NoCompl := by
  induction ss generalizing pr with
  | nil => exact h
  | cons s ss ih => exact ih _ (Proc.step_noCompl cap pr s h)

/-- What a process that ran a test leaves in an initially empty channel: its records `w` (checks and skip
announcements only), followed by the completion notice exactly when it lived to send it; only then can it have
been killed afterwards, and only by a signal. -/
def Proc.Shape (pr : Proc) : Prop :=
  ∃ w, pr.pipe = w ++ (if pr.dead.isSome then [] else [.completion]) ∧ Rec.completion ∉ w ∧ Rec.exception ∉ w
    ∧ ∀ d, pr.late = some d → pr.dead = none ∧ d.isSignal = true

theorem runCode_shape (cap : Nat) (su td : Bool) (t : Test) : (runCode cap [] su td t).Shape := by
  unfold runCode
  have h0 := Proc.steps_noCompl cap { pipe := [], killWrite := (planOf t).atWrite, how := (planOf t).how } (scriptOf su td t)
    ⟨List.not_mem_nil, List.not_mem_nil, rfl⟩
  generalize Proc.steps cap _ (scriptOf su td t) = q at h0
  obtain ⟨hc, he, hl⟩ := h0
  obtain ⟨d, e⟩ | ⟨hd, l, e, hsig⟩ := q.sendCompletion_eq cap (planOf t).late <;> rw [e]
  · exact ⟨q.pipe, by simp, hc, he, by simp [hl]⟩
  · exact ⟨q.pipe, by simp [hd], hc, he, fun d h => ⟨hd, hsig d h⟩⟩

/-! ### One test -/

theorem filter_beq_of_not_mem {l : List Rec} {r : Rec} (h : r ∉ l) : l.filter (· == r) = [] :=
  List.filter_eq_nil_iff.mpr fun _ ha e => h ((beq_iff_eq.mp e) ▸ ha)

/-- Did the process end abnormally (before completing, or by a signal afterwards)? -/
def Proc.abnormal (pr : Proc) : Bool := pr.dead.isSome || pr.late.isSome

/-- The counts of a finished process, component by component. -/
theorem Proc.truth_eq (pr : Proc) :
    pr.truth = ⟨(pr.pipe.filter (· == .pass)).length, (pr.pipe.filter (· == .fail)).length,
                if pr.pipe.contains .skipped then 1 else 0, if pr.abnormal then 1 else 0⟩ := by
  have hp : ∀ r : Rec, (r == .pass && r != .completion) = (r == .pass) := fun r => by cases r <;> rfl
  have hf : ∀ r : Rec, (r == .fail && r != .completion) = (r == .fail) := fun r => by cases r <;> rfl
  simp only [Proc.truth, Proc.abnormal, List.filter_filter, hp, hf, List.mem_filter]
  by_cases hs : Rec.skipped ∈ pr.pipe <;> by_cases ha : (pr.dead.isSome || pr.late.isSome) = true <;>
    simp [hs, ha, Cnt.add_def, Rec.cnt, Cnt.zero_def]

/-- Finding F02 as an explicit hypothesis: a process that ended abnormally had not called
`skip_test()` before (such a test is reported as skipped, not as an exception). -/
def Proc.ok (pr : Proc) : Prop := pr.abnormal = true → Rec.skipped ∉ pr.pipe

/-- The finish status the parent derives for a process. -/
def Proc.finishSt (pr : Proc) : Finish :=
  if pr.pipe.contains .skipped then .skippedSt
  else if pr.dead.isSome then .notReceived else .received

theorem Cnt.add_sub_self (a b : Cnt) :
    (⟨(a + b).p - a.p, (a + b).f - a.f, (a + b).s - a.s, (a + b).e - a.e⟩ : Cnt) = b := by
  cases a; cases b; simp [Cnt.add_def]

/-- What the parent's `finish_test` does to a channel that holds exactly one process's records. -/
theorem finishTest_of_proc (pr : Proc) (hok : pr.ok) (hshape : pr.Shape)
    (s : St) (tp : List String) (hpipe : s.pipe = pr.pipe) :
    finishTest s tp (signalMsg (pr.dead <|> pr.late)) =
      { s with
        pipe := [], cur := s.cur + pr.truth,
        out := s.out ++ ((if pr.abnormal then [Out.excLine tp] else [])
                          ++ [Out.testEnd tp pr.truth pr.finishSt]) } := by
  obtain ⟨w, hw, hc, he, hlate⟩ := hshape
  have hfilter : ∀ r, r ≠ Rec.completion → pr.pipe.filter (· == r) = w.filter (· == r) := by
    intro r hr; rw [hw, List.filter_append]; split <;> simp [hr.symm]
  have hskip : pr.pipe.contains .skipped = w.contains .skipped := by rw [hw]; split <;> simp
  -- the reader counts the records `w` and stops at the notice or at the end
  have hread : readResults s.cur false pr.pipe = (s.cur + cntOf false w, [], pr.finishSt) := by
    rw [hw, readResults_append _ _ _ _ hc, Proc.finishSt, hskip]
    cases pr.dead.isSome <;> cases w.contains .skipped <;> simp [readResults]
  -- it reports an exception exactly when the process ended abnormally
  have hexc : (decide (pr.finishSt = .notReceived) || (decide (pr.finishSt = .received) && signalMsg (pr.dead <|> pr.late)))
      = pr.abnormal := by
    unfold Proc.finishSt
    split
    · rename_i hs
      have : pr.abnormal = false := by
        cases h : pr.abnormal
        · rfl
        · exact absurd (by simpa using hs) (hok h)
      simp [this]
    · cases hd : pr.dead with
      | some d => simp [Proc.abnormal, hd]
      | none =>
        cases hl : pr.late with
        | none => simp [Proc.abnormal, hd, hl, signalMsg]
        | some d => cases d <;> simp_all [Proc.abnormal, signalMsg, Death.isSignal]
  have htruth : pr.truth = cntOf false w + (if pr.abnormal then Rec.exception.cnt else 0) := by
    rw [Proc.truth_eq, cntOf_eq, hfilter _ (by decide), hfilter _ (by decide), hskip, filter_beq_of_not_mem he]
    cases pr.abnormal <;> cases w.contains .skipped <;> simp [Cnt.add_def, Rec.cnt, Cnt.zero_def]
  simp only [finishTest, hpipe, hread, hexc, htruth]
  cases pr.abnormal <;> simp [Cnt.add_assoc, Cnt.add_sub_self]

/-- Side conditions under which the refinement theorem is stated: the test is not an instance of F02,
and when test code runs in the process that owns the verdict (`inproc`) the test completes (a death
there ends the whole run; that case is covered by `St.procEnd`). -/
def Test.ok (cap : Nat) (m : Mode) (su td : Bool) (t : Test) : Prop :=
  t.xskip = false → (runCode cap [] su td t).ok ∧ (m = .inproc → (runCode cap [] su td t).abnormal = false)

def Test.finishSt (cap : Nat) (su td : Bool) (t : Test) : Finish :=
  if t.xskip then .skippedSt else (runCode cap [] su td t).finishSt

def Test.abnormal (cap : Nat) (su td : Bool) (t : Test) : Bool :=
  if t.xskip then false else (runCode cap [] su td t).abnormal

theorem Test.not_xskip_of_abnormal {cap : Nat} {su td : Bool} {t : Test} (h : t.abnormal cap su td = true) : t.xskip = false := by
  cases hx : t.xskip <;> simp_all [Test.abnormal]

/-- The result lines of one test: its failure messages, its exception line if it has one, the credit it is given. -/
def Test.results (cap : Nat) (su td : Bool) (tp : List String) (t : Test) : List Out :=
  if t.xskip then [.testEnd tp Rec.skipped.cnt .skippedSt] else
  [.failLines tp (runCode cap [] su td t).fails]
    ++ ((if t.abnormal cap su td then [.excLine tp] else [])
    ++ [.testEnd tp (t.truth cap su td) (t.finishSt cap su td)])

/-- The same uniformly: a `failLines` line unless the test is skipped by declaration, an exception line if it ended
abnormally, and its `testEnd` line. -/
theorem Test.results_eq (cap : Nat) (su td : Bool) (tp : List String) (t : Test) :
    t.results cap su td tp
      = (if t.xskip then [] else [.failLines tp (runCode cap [] su td t).fails])
        ++ ((if t.abnormal cap su td then [.excLine tp] else [])
        ++ [.testEnd tp (t.truth cap su td) (t.finishSt cap su td)]) := by
  cases hx : t.xskip <;> simp [Test.results, Test.abnormal, Test.truth, Test.finishSt, hx]

def Out.isResult : Out → Bool
  | .failLines .. => true | .excLine .. => true | .testEnd .. => true | .suiteEnd .. => true | .totals .. => true
  | _ => false

theorem filter_isResult_evs (n : Nat) (p : List String) (tr : List Phase) : (evs n p tr).filter Out.isResult = [] :=
  List.filter_eq_nil_iff.mpr fun a ha => by
    obtain ⟨ph, _, rfl⟩ := List.mem_map.mp ha
    simp [Out.isResult]

/-- `r` is `s` after a piece of the run that left the channel empty, did not halt, set the suite
counters to `c`, added `dt` to the totals, forked `n` processes and printed `o`. -/
structure Steps (s r : St) (c dt : Cnt) (o : List Out) (n : Nat) : Prop where
  pipe : r.pipe = []
  halted : r.halted = none
  cur : r.cur = c
  tot : r.tot = s.tot + dt
  nproc : r.nproc = s.nproc + n
  out : r.out = s.out ++ o

/-- `Steps` for some number of processes and some output whose result lines are `res`. -/
def Shows (s r : St) (c dt : Cnt) (res : List Out) : Prop :=
  ∃ o n, Steps s r c dt o n ∧ o.filter Out.isResult = res

namespace Shows
variable {s r r' : St} {c c' dt dt' : Cnt} {res res' : List Out}

theorem refl (hp : s.pipe = []) (hh : s.halted = none) : Shows s s s.cur 0 [] :=
  ⟨[], 0, ⟨hp, hh, rfl, by simp, rfl, by simp⟩, rfl⟩

theorem post (h : Shows s r c dt res) : r.pipe = [] ∧ r.halted = none ∧ r.cur = c := by
  obtain ⟨_, _, h, _⟩ := h; exact ⟨h.pipe, h.halted, h.cur⟩

theorem trans (h₁ : Shows s r c dt res) (h₂ : Shows r r' c' dt' res') : Shows s r' c' (dt + dt') (res ++ res') := by
  obtain ⟨o₁, n₁, h₁, e₁⟩ := h₁
  obtain ⟨o₂, n₂, h₂, e₂⟩ := h₂
  exact ⟨o₁ ++ o₂, n₁ + n₂,
    ⟨h₂.pipe, h₂.halted, h₂.cur, by rw [h₂.tot, h₁.tot, Cnt.add_assoc], by rw [h₂.nproc, h₁.nproc, Nat.add_assoc],
      by rw [h₂.out, h₁.out, List.append_assoc]⟩,
    by rw [List.filter_append, e₁, e₂]⟩

/-- Resetting the suite counters. -/
theorem setCur (h : Shows s r c dt res) (c' : Cnt) : Shows s { r with cur := c' } c' dt res := by
  obtain ⟨o, n, h, e⟩ := h
  exact ⟨o, n, ⟨h.pipe, h.halted, rfl, h.tot, h.nproc, h.out⟩, e⟩

/-- Printing lines that are not result lines. -/
theorem log (h : Shows s r c dt res) (l : List Out) (hl : l.filter Out.isResult = []) :
    Shows s { r with out := r.out ++ l } c dt res := by
  obtain ⟨o, n, h, e⟩ := h
  exact ⟨o ++ l, n, ⟨h.pipe, h.halted, h.cur, h.tot, h.nproc, by simp [h.out]⟩, by rw [List.filter_append, e, hl, List.append_nil]⟩

end Shows

/-- A write by the process that owns the verdict (no kill plan applies to it). -/
theorem send_fresh (cap : Nat) (q : List Rec) (r : Rec) (h : q.length < cap) :
    (({ pipe := q } : Proc).send cap r).pipe = q ++ [r] ∧ (({ pipe := q } : Proc).send cap r).dead = none := by
  simp [Proc.send, h]

/-- One test, started on an empty channel: the channel is empty again afterwards, the test's
own counts (and nothing else) are added to the suite's counters, and its result lines are a function
of the test alone. -/
theorem runTest_shows (cap : Nat) (hcap : 0 < cap) (m : Mode) (r : Reporter) (su td : Bool) (path : List String) (s : St) (t : Test)
    (hp : s.pipe = []) (hh : s.halted = none) (hok : t.ok cap m su td) :
    Shows s (runTest ⟨cap, m, r⟩ su td path s t) (s.cur + t.truth cap su td) 0 (t.results cap su td (path ++ [t.name])) := by
  have hs := send_fresh cap [] .skipped hcap
  cases hx : t.xskip with
  | true =>
    refine ⟨[.testStart (path ++ [t.name]), .testEnd (path ++ [t.name]) Rec.skipped.cnt .skippedSt], 0, ?_, by simp [Test.results, hx, Out.isResult]⟩
    simp only [runTest, hh, hx, hp, hs.1, hs.2, List.nil_append, finishTest, readResults, Test.truth]
    constructor <;> simp [Cnt.add_sub_self]
  | false =>
    have ⟨hok1, hok2⟩ := hok hx
    -- both modes end in the same `finish_test`; in process the test has completed
    have hfin := fun s' h => finishTest_of_proc (runCode cap [] su td t) hok1 (runCode_shape cap su td t) s' (path ++ [t.name]) h
    have hmsg : m = .inproc → (runCode cap [] su td t).dead = none ∧ signalMsg ((runCode cap [] su td t).dead <|> (runCode cap [] su td t).late) = false := by
      intro hm
      have := hok2 hm
      simp only [Proc.abnormal, Bool.or_eq_false_iff, Option.isSome_eq_false_iff, Option.isNone_iff_eq_none] at this
      simp [this.1, this.2, signalMsg]
    refine ⟨[.testStart (path ++ [t.name])] ++ (evs (match m with | .fork => s.nproc + 1 | .inproc => 0) (path ++ [t.name]) (runCode cap [] su td t).trace
              ++ [.failLines (path ++ [t.name]) (runCode cap [] su td t).fails])
              ++ ((if t.abnormal cap su td then [.excLine (path ++ [t.name])] else [])
                  ++ [.testEnd (path ++ [t.name]) (t.truth cap su td) (t.finishSt cap su td)]),
            (match m with | .fork => 1 | .inproc => 0), ?_, ?_⟩
    · simp only [Test.truth, Test.abnormal, Test.finishSt, hx, Bool.false_eq_true, if_false]
      cases m with
      | fork =>
        simp only [runTest, hh, hx, hp, Option.isSome_none, Bool.false_eq_true, if_false]
        rw [hfin _ rfl]
        constructor <;> simp
      | inproc =>
        obtain ⟨hd, hm⟩ := hmsg rfl
        simp only [runTest, hh, hx, hp, hd, Option.isSome_none, Bool.false_eq_true, if_false]
        rw [← hm, hfin _ rfl]
        constructor <;> simp
    · cases hab : t.abnormal cap su td <;>
        simp [List.filter_append, filter_isResult_evs, Test.results, hx, hab, Out.isResult]

def resultsTests (cap : Nat) (su td : Bool) (path : List String) : List Test → List Out
  | [] => []
  | t :: ts => t.results cap su td (path ++ [t.name]) ++ resultsTests cap su td path ts

theorem resultsTests_append (cap : Nat) (su td : Bool) (path : List String) (a b : List Test) :
    resultsTests cap su td path (a ++ b) = resultsTests cap su td path a ++ resultsTests cap su td path b := by
  induction a with
  | nil => simp [resultsTests]
  | cons t a ih => simp [resultsTests, ih, List.append_assoc]

theorem runTests_shows (cap : Nat) (hcap : 0 < cap) (m : Mode) (r : Reporter) (su td : Bool) (path : List String) (ts : List Test) (s : St)
    (hp : s.pipe = []) (hh : s.halted = none) (hok : ∀ t ∈ ts, t.ok cap m su td) :
    Shows s (runTests ⟨cap, m, r⟩ su td path s ts) (s.cur + truthTests cap su td ts) 0 (resultsTests cap su td path ts) := by
  induction ts generalizing s with
  | nil => simpa [runTests, truthTests, resultsTests] using Shows.refl hp hh
  | cons t ts ih =>
    have h₁ := runTest_shows cap hcap m r su td path s t hp hh (hok t List.mem_cons_self)
    have h₂ := ih _ h₁.post.1 h₁.post.2.1 (fun t' ht' => hok t' (List.mem_cons_of_mem _ ht'))
    rw [h₁.post.2.2, Cnt.add_assoc] at h₂
    simpa [runTests, truthTests, resultsTests] using h₁.trans h₂

/-! ### Suites -/

theorem finishSuite_shows (cap : Nat) (hcap : 0 < cap) (mode : Mode) (r : Reporter) (s : St) (path : List String)
    (hp : s.pipe = []) (hh : s.halted = none) :
    Shows s (finishSuite ⟨cap, mode, r⟩ s path) s.cur s.cur [Out.suiteEnd path s.cur] := by
  have hs := send_fresh cap [] .completion hcap
  refine ⟨[Out.suiteEnd path s.cur], 0, ?_, rfl⟩
  simp only [finishSuite, hh, hp, hs.1, hs.2, List.nil_append, readResults]
  constructor <;> simp

mutual
/-- No test in the tree is an instance of finding F02. -/
def Tree.AllOk (cap : Nat) (m : Mode) : Tree → Prop
  | .node _ su td subs tests => allOkSubs cap m subs ∧ ∀ t ∈ tests, t.ok cap m su td
def allOkSubs (cap : Nat) (m : Mode) : List Tree → Prop
  | [] => True
  | c :: cs => c.AllOk cap m ∧ allOkSubs cap m cs
end

theorem Tree.allOk_node (cap : Nat) (m : Mode) (name : String) (su td : Bool) (subs : List Tree) (tests : List Test) :
    (Tree.node name su td subs tests).AllOk cap m ↔ allOkSubs cap m subs ∧ ∀ t ∈ tests, t.ok cap m su td := by
  simp [Tree.AllOk]

theorem allOkSubs_cons (cap : Nat) (m : Mode) (c : Tree) (cs : List Tree) :
    allOkSubs cap m (c :: cs) ↔ c.AllOk cap m ∧ allOkSubs cap m cs := by
  simp [allOkSubs]

mutual
/-- The result lines of a whole tree, in the order every reporter produces them: sub-suites first,
then the suite's own tests, then the suite's own line. -/
def Tree.results (cap : Nat) (parent : List String) : Tree → List Out
  | .node name su td subs tests =>
    resultsSubs cap (parent ++ [name]) subs ++ resultsTests cap su td (parent ++ [name]) tests
      ++ [Out.suiteEnd (parent ++ [name]) (truthTests cap su td tests)]
def resultsSubs (cap : Nat) (path : List String) : List Tree → List Out
  | [] => []
  | c :: cs => c.results cap path ++ resultsSubs cap path cs
end

theorem filter_isResult_fixture (b : Bool) (path : List String) (ph : Phase) :
    (if b then [Out.ev 0 path ph] else []).filter Out.isResult = [] := by cases b <;> rfl

mutual
/-- A suite, started on an empty channel: its truth is added to the totals and its result lines are `Tree.results`. -/
theorem runSuite_shows (cap : Nat) (hcap : 0 < cap) (m : Mode) (r : Reporter) :
    ∀ (t : Tree) (parent : List String) (s : St), s.pipe = [] → s.halted = none → t.AllOk cap m →
    ∃ c, Shows s (runSuite ⟨cap, m, r⟩ parent s t) c (t.truth cap) (t.results cap parent)
  | .node name su td subs tests, parent, s, hp, hh, hok => by
    obtain ⟨hoks, hokt⟩ := (Tree.allOk_node ..).mp hok
    -- start_suite, the sub-suites, the counters reset, the suite's own tests, finish_suite
    have h₀ := ((Shows.refl hp hh).log [Out.suiteStart (parent ++ [name])] rfl).setCur 0
    obtain ⟨c₁, h₁⟩ := runSubs_fork cap hcap m r subs (parent ++ [name]) su td _ h₀.post.1 h₀.post.2.1 hoks
    have h₂ := (h₀.trans h₁).setCur 0
    have h₃ := h₂.trans (runTests_shows cap hcap m r su td (parent ++ [name]) tests _ h₂.post.1 h₂.post.2.1 hokt)
    have h₄ := h₃.trans (finishSuite_shows cap hcap m r _ (parent ++ [name]) h₃.post.1 h₃.post.2.1)
    rw [h₃.post.2.2] at h₄
    exact ⟨_, by simpa [runSuite, hh, Tree.truth, Tree.results] using h₄⟩
theorem runSubs_fork (cap : Nat) (hcap : 0 < cap) (m : Mode) (r : Reporter) :
    ∀ (cs : List Tree) (path : List String) (su td : Bool) (s : St), s.pipe = [] → s.halted = none → allOkSubs cap m cs →
    ∃ c o n, Steps s (runSubs ⟨cap, m, r⟩ path su td s cs) c (truthSubs cap cs) o n
            ∧ o.filter Out.isResult = resultsSubs cap path cs
  | [], path, su, td, s, hp, hh, _ => ⟨s.cur, show Shows s _ s.cur _ _ by simpa [runSubs, truthSubs, resultsSubs] using Shows.refl hp hh⟩
  | c :: cs, path, su, td, s, hp, hh, hok => by
    obtain ⟨hokc, hoks⟩ := (allOkSubs_cons ..).mp hok
    -- the suite's setup, the sub-suite, the suite's teardown, the other sub-suites
    have h₀ := (Shows.refl hp hh).log _ (filter_isResult_fixture su path .suiteSetup)
    obtain ⟨c₁, h₁⟩ := runSuite_shows cap hcap m r c path _ h₀.post.1 h₀.post.2.1 hokc
    have h₂ := (h₀.trans h₁).log _ (filter_isResult_fixture td path .suiteTeardown)
    obtain ⟨c₃, h₃⟩ := runSubs_fork cap hcap m r cs path su td _ h₂.post.1 h₂.post.2.1 hoks
    have hi : s.halted.isSome = false := by simp [hh]
    have hi₁ : (runSuite ⟨cap, m, r⟩ path { s with out := s.out ++ (if su then [Out.ev 0 path .suiteSetup] else []) } c).halted.isSome = false := by
      simp [h₁.post.2.1]
    exact ⟨c₃, show Shows s _ c₃ _ _ by simpa only [runSubs, hi, hi₁, Bool.false_eq_true, if_false, truthSubs, resultsSubs, Cnt.zero_add, List.nil_append] using h₂.trans h₃⟩
end
/-! ### The whole run -/

/-- **The refinement.** A run of a tree without an instance of F02, on a channel of any positive capacity, in either mode and
under any reporter, does not halt, ends with an empty channel, has the tree's truth as its totals and shows the result lines
computed from the tree alone, followed by the totals. -/
theorem run_spec (cap : Nat) (hcap : 0 < cap) (m : Mode) (r : Reporter) (t : Tree) (hok : t.AllOk cap m) :
    (run ⟨cap, m, r⟩ t).halted = none ∧ (run ⟨cap, m, r⟩ t).pipe = [] ∧ (run ⟨cap, m, r⟩ t).tot = t.truth cap
    ∧ (run ⟨cap, m, r⟩ t).out.filter Out.isResult = t.results cap [] ++ [Out.totals (t.truth cap)] := by
  obtain ⟨c, o, n, h, hr⟩ := runSuite_shows cap hcap m r t [] {} rfl rfl hok
  have hi : (runSuite ⟨cap, m, r⟩ [] {} t).halted.isSome = false := by simp [h.halted]
  simp only [run, hi, Bool.false_eq_true, if_false]
  refine ⟨h.halted, h.pipe, ?_, ?_⟩
  · rw [h.tot]; simp
  · rw [h.out, h.tot]; simp [List.filter_append, hr, Out.isResult, List.filter_cons]

/-- Totals, result lines and verdict of a run are functions of the tree and the capacity alone: neither the
execution mode nor the reporter enters. -/
theorem run_independent (cap : Nat) (hcap : 0 < cap) (m m' : Mode) (r r' : Reporter) (t : Tree)
    (hok : t.AllOk cap m) (hok' : t.AllOk cap m') :
    (run ⟨cap, m, r⟩ t).tot = (run ⟨cap, m', r'⟩ t).tot
    ∧ (run ⟨cap, m, r⟩ t).out.filter Out.isResult = (run ⟨cap, m', r'⟩ t).out.filter Out.isResult
    ∧ verdict (run ⟨cap, m, r⟩ t) = verdict (run ⟨cap, m', r'⟩ t) := by
  obtain ⟨hh, _, ht, hr⟩ := run_spec cap hcap m r t hok
  obtain ⟨hh', _, ht', hr'⟩ := run_spec cap hcap m' r' t hok'
  exact ⟨ht.trans ht'.symm, hr.trans hr'.symm, by simp only [verdict, hh, hh', ht, ht']⟩

def testsWith (su td : Bool) : List Test → List (Bool × Bool × Test)
  | [] => []
  | t :: ts => (su, td, t) :: testsWith su td ts

mutual
/-- All tests of a tree with the fixture flags of their suite, in execution order. -/
def Tree.allTests : Tree → List (Bool × Bool × Test)
  | .node _ su td subs tests => allTestsSubs subs ++ testsWith su td tests
def allTestsSubs : List Tree → List (Bool × Bool × Test)
  | [] => []
  | c :: cs => c.allTests ++ allTestsSubs cs
end

def sumTruth (cap : Nat) : List (Bool × Bool × Test) → Cnt
  | [] => 0
  | (su, td, t) :: l => t.truth cap su td + sumTruth cap l

theorem sumTruth_append (cap : Nat) (a b : List (Bool × Bool × Test)) :
    sumTruth cap (a ++ b) = sumTruth cap a + sumTruth cap b := by
  induction a with
  | nil => simp [sumTruth]
  | cons x a ih => obtain ⟨su, td, t⟩ := x; simp [sumTruth, ih, Cnt.add_assoc]

theorem sumTruth_testsWith (cap : Nat) (su td : Bool) (ts : List Test) :
    sumTruth cap (testsWith su td ts) = truthTests cap su td ts := by
  induction ts with
  | nil => simp [testsWith, sumTruth, truthTests]
  | cons t ts ih => simp [testsWith, sumTruth, truthTests, ih]

mutual
theorem Tree.truth_eq_sum (cap : Nat) : ∀ t : Tree, t.truth cap = sumTruth cap t.allTests
  | .node _ su td subs tests => by
    simp [Tree.truth, Tree.allTests, sumTruth_append, sumTruth_testsWith, truthSubs_eq_sum cap subs]
theorem truthSubs_eq_sum (cap : Nat) : ∀ cs : List Tree, truthSubs cap cs = sumTruth cap (allTestsSubs cs)
  | [] => by simp [truthSubs, allTestsSubs, sumTruth]
  | c :: cs => by simp [truthSubs, allTestsSubs, sumTruth_append, Tree.truth_eq_sum cap c, truthSubs_eq_sum cap cs]
end

theorem sumTruth_clean (cap : Nat) (l : List (Bool × Bool × Test)) :
    ((sumTruth cap l).f = 0 ∧ (sumTruth cap l).e = 0)
      ↔ ∀ x ∈ l, (x.2.2.truth cap x.1 x.2.1).f = 0 ∧ (x.2.2.truth cap x.1 x.2.1).e = 0 := by
  induction l with
  | nil => simp [sumTruth, Cnt.zero_def]
  | cons x l ih =>
    obtain ⟨su, td, t⟩ := x
    simp only [sumTruth, Cnt.add_def, List.mem_cons, forall_eq_or_imp]
    rw [← ih]
    omega

end Cgreen
